import PS.Smt
import PS.SmtPrint
import PS.Sexp
import PS.Model.Types
import PS.Model.Encode
import PS.Model.Step
import PS.Model.Indicator
import PS.Model.Initialize
import PS.Model.Parse
import PS.Proofs.InitMem
import PS.Spec.Basic
import PS.Theorems.C01
import PS.Spec.Twins
import PS.Theorems.C02
import PS.Theorems.C10
import PS.Model.Solver
import PS.Theorems.C07
import PS.Theorems.C13
import PS.Theorems.C14
import PS.Theorems.C12
import PS.Theorems.C15
import PS.Theorems.C19
import PS.Theorems.SpecSound
import PS.Theorems.C03
import PS.Theorems.C04
import PS.Theorems.C08
import PS.Theorems.C09
import PS.Theorems.C18
import PS.Model.Solution
import PS.Model.Export
import PS.Theorems.C11
import PS.Theorems.C16
import PS.Theorems.C17
import PS.Theorems.C05
import PS.Theorems.C06
import PS.Theorems.Own
import PS.Theorems.Exact
import PS.Theorems.Absent
import PS.Theorems.Multi
import PS.Theorems.Groups
import PS.Theorems.GroupsV
import PS.Theorems.C11R
import PS.Theorems.CleanSpec
import PS.Theorems.Renumber
import PS.Theorems.C12V
import PS.Theorems.C07V
