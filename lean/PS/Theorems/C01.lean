/-
  C01 — returned schedules obey task timing: window, duration, release date, deadline.

  Proved in full: for every state of the encoder (reachable or not, any number and mix of other elements) and every
  solver configuration, an interpretation that satisfies the assertion list of `initialize` gives every task it
  schedules `TaskTimingOK`.
-/
import PS.Proofs.InitMem
import PS.Spec.Basic
namespace PS

theorem Task.baseList_sat (t : Task) (ρ : Env) :
    Sat ρ t.baseList ↔ 0 ≤ t.startV ρ ∧ t.endV ρ - t.startV ρ = t.durV ρ ∧ t.DurOK (t.durV ρ) := by
  have key : ∀ s d e : Int, s + d = e ↔ e - s = d := by omega
  unfold Task.baseList Task.durV Task.DurOK
  cases t.kind with
  | fixed d | zero => simp only [sem]; omega
  | var minD maxD allowed =>
      -- the same conjuncts, in the order of the encoding resp. of `TaskTimingOK`
      cases maxD <;> cases allowed <;> simp [sem, key] <;> constructor <;> intro h <;> simp only [h, and_self]

/-- a release date is asserted only when positive: `0 ≤ start` covers the others -/
theorem Task.releaseDue_sat (t : Task) (ρ : Env) :
    Sat ρ t.releaseDue ↔ (∀ r, t.release = some r → 0 < r → r ≤ t.startV ρ) ∧
      (∀ d, t.due = some d → t.deadline = true → t.endV ρ ≤ d) := by
  unfold Task.releaseDue
  cases t.release <;> cases t.due <;>
    simp only [sem, reduceCtorEq, false_imp_iff, implies_true, Option.some.injEq, forall_eq', gt_iff_lt]

/-- `point_in_past = -self._task_number`, zero length -/
theorem Task.notScheduled_eval (t : Task) (ρ : Env) :
    t.notScheduled.eval ρ ↔
      t.startV ρ = t.pastPoint ∧ t.endV ρ = t.pastPoint ∧ (t.isVar = true → ρ.i (.tDur t.name) = 0) := by
  unfold Task.notScheduled
  cases t.isVar <;> simp [sem]

theorem Task.setAssertions_sat (t : Task) (ρ : Env) :
    Sat ρ t.setAssertions ↔ (Scheduled ρ t → Sat ρ t.guarded) ∧ (¬ Scheduled ρ t → t.notScheduled.eval ρ) := by
  unfold Task.setAssertions Scheduled
  cases t.optional <;> simp [sem]

theorem State.problemAsserts_sat (st : State) (ρ : Env) :
    Sat ρ st.problemAsserts ↔ ∀ H, st.horizon = some H → ρ.i .horizon ≤ H := by
  unfold State.problemAsserts
  cases st.horizon <;> simp [sem]

/-- **C01.**  Every scheduled task obeys window, duration, release date and deadline in every interpretation admitted
    by the constraint system. -/
theorem C01_task_timing (cfg : Config) (st : State) (ρ : Env) (hρ : Sat ρ (initFmls cfg st)) :
    ∀ t ∈ st.tasks, Scheduled ρ t → TaskTimingOK st.horizon t ρ := by
  intro t ht hs
  have hG := ((t.setAssertions_sat ρ).1 (hρ.init_setAssertions ht)).1 hs
  rw [Task.guarded, Sat.append, t.releaseDue_sat, t.baseList_sat] at hG
  obtain ⟨⟨hR, hD⟩, h0, hd, hok⟩ := hG
  refine ⟨h0, hρ.init_horizon ht, fun H hH => ?_, hd, hok, fun r hr => ?_, hD⟩
  · exact (st.problemAsserts_sat ρ).1 hρ.init_problem H hH
  · by_cases hpos : 0 < r
    · exact hR r hr hpos
    · omega

theorem Sat.init_parked {cfg : Config} {st : State} {ρ : Env} (hρ : Sat ρ (initFmls cfg st)) {t : Task} (ht : t ∈ st.tasks)
    (ho : t.optional = true) (hs : ρ.b (.sched t.name) = false) :
    t.startV ρ = t.pastPoint ∧ t.endV ρ = t.pastPoint ∧ (t.isVar = true → ρ.i (.tDur t.name) = 0) :=
  (t.notScheduled_eval ρ).1
    (((t.setAssertions_sat ρ).1 (hρ.init_setAssertions ht)).2 (Scheduled.not_iff.2 ⟨ho, hs⟩))

theorem C01_unscheduled_parked (cfg : Config) (st : State) (ρ : Env) (hρ : Sat ρ (initFmls cfg st)) :
    ∀ t ∈ st.tasks, t.optional = true → ρ.b (.sched t.name) = false → TaskParked t ρ := by
  intro t ht ho hs
  have := hρ.init_parked ht ho hs
  rw [Task.pastPoint] at this
  exact ⟨by omega, by omega⟩

/-! ### non-vacuity -/

def C01_exState : State :=
  run [.problem "p" (some 10),
       .task "A" (.fixed 3) false 0 (some 2) (some 9) true 1,
       .task "B" (.var 1 (some 4) (some [2, 3])) true 0 none none true 1]

def C01_exEnv : Env :=
  { i := fun v => match v with
      | .tStart "A" => 2 | .tEnd "A" => 5
      | .tStart "B" => 5 | .tEnd "B" => 7 | .tDur "B" => 2
      | .horizon => 9
      | _ => 0
    b := fun v => match v with | .sched "B" => true | _ => false }

example : satB C01_exEnv (initFmls {} C01_exState) = true := by decide +kernel
example : C01_exState.tasks.length = 2 := by decide +kernel

end PS
