/-
  C02 — resource capacity, assignment, selection and work amount hold in returned schedules.

  Proved in full, for every state (any number of tasks, workers, units, selections, requirement calls), every
  configuration and every interpretation satisfying the assertion list of `initialize`: (a) the busy intervals of a
  worker are pairwise disjoint, so at most one covers any instant; (b) a cumulative worker of `n` units holds at most
  `n` tasks at any instant; (c) the busy span of every required worker, for requirement events as `step` creates them
  (`ReqEvent.WF`); (d) selection counts; (e) work amounts.
-/
import PS.Proofs.InitMem
import PS.Spec.Basic
namespace PS

/-- two busy intervals of worker `w` do not overlap in ρ -/
def Disjoint2 (ρ : Env) (w : String) (x y : String × Bool) : Prop :=
  ρ.i (.busyE w x.1 x.2) ≤ ρ.i (.busyS w y.1 y.2) ∨ ρ.i (.busyE w y.1 y.2) ≤ ρ.i (.busyS w x.1 x.2)

theorem noOverlapPairs_sat (ρ : Env) (w : String) (l : List (String × Bool)) :
    Sat ρ (noOverlapPairs w l) ↔ l.Pairwise (Disjoint2 ρ w) := by
  induction l with
  | nil => simp [noOverlapPairs, Sat.nil]
  | cons x xs ih => simp only [noOverlapPairs, List.pairwise_cons, ← ih, sem, Disjoint2, Prod.forall]

/-- **C02 (a).** The busy intervals of every worker are pairwise non-overlapping. -/
theorem C02_no_overlap (cfg : Config) (st : State) (ρ : Env) (hρ : Sat ρ (initFmls cfg st)) :
    ∀ w ∈ st.workers, (st.busyOf w.name).Pairwise (Disjoint2 ρ w.name) :=
  fun w hw => (noOverlapPairs_sat ρ w.name _).1 (hρ.init_worker hw)

def Covers (ρ : Env) (w : String) (τ : Int) (x : String × Bool) : Prop :=
  ρ.i (.busyS w x.1 x.2) ≤ τ ∧ τ < ρ.i (.busyE w x.1 x.2)

open Classical in
/-- number of busy intervals of `w` covering τ -/
noncomputable def loadAt (ρ : Env) (w : String) (l : List (String × Bool)) (τ : Int) : Nat :=
  l.countP (fun x => decide (Covers ρ w τ x))

open Classical in
theorem pairwise_load_le_one (ρ : Env) (w : String) (τ : Int) (l : List (String × Bool))
    (h : l.Pairwise (Disjoint2 ρ w)) : loadAt ρ w l τ ≤ 1 := by
  induction l with
  | nil => exact Nat.zero_le 1
  | cons x xs ih =>
      rw [List.pairwise_cons] at h
      rw [loadAt, List.countP_cons]
      by_cases hx : Covers ρ w τ x
      · -- the other intervals are disjoint from `x`, which covers τ: none of them does
        have : xs.countP (fun y => decide (Covers ρ w τ y)) = 0 :=
          List.countP_eq_zero.2 fun y hy hc => by
            have hd := h.1 y hy
            have hc := of_decide_eq_true hc
            unfold Disjoint2 at hd; unfold Covers at hx hc; omega
        rw [this, decide_eq_true hx]; exact Nat.le_refl 1
      · rw [decide_eq_false hx]; exact ih h.2

/-- **C02 (a'), pointwise form.** At every instant a worker is busy with at most one task. -/
theorem C02_load_le_one (cfg : Config) (st : State) (ρ : Env) (hρ : Sat ρ (initFmls cfg st)) :
    ∀ w ∈ st.workers, ∀ τ : Int, loadAt ρ w.name (st.busyOf w.name) τ ≤ 1 :=
  fun w hw τ => pairwise_load_le_one ρ w.name τ _ (C02_no_overlap cfg st ρ hρ w hw)

/-- number of (unit, task) busy intervals of the cumulative worker covering τ -/
noncomputable def cumulLoadAt (st : State) (ρ : Env) (units : List String) (τ : Int) : Nat :=
  (units.map (fun u => loadAt ρ u (st.busyOf u) τ)).sum

theorem sum_le_length_of_le_one (l : List Nat) (h : ∀ x ∈ l, x ≤ 1) : l.sum ≤ l.length := by
  induction l with
  | nil => simp
  | cons x xs ih =>
      have h1 := h x (List.mem_cons_self ..)
      have h2 := ih (fun y hy => h y (List.mem_cons_of_mem _ hy))
      simp only [List.sum_cons, List.length_cons]
      omega

/-- **C02 (b).** If every unit of a cumulative worker is a worker of the problem (`stepCumulative` registers each
    unit through `stepWorker`), then at every instant the cumulative worker holds at most as many tasks as it has units
    (`units.length`; that this is the declared `size` is not part of the statement). -/
theorem C02_cumulative_capacity (cfg : Config) (st : State) (ρ : Env) (hρ : Sat ρ (initFmls cfg st))
    (cw : Cumul) (hunits : ∀ u ∈ cw.units, ∃ w ∈ st.workers, w.name = u) (τ : Int) :
    cumulLoadAt st ρ cw.units τ ≤ cw.units.length := by
  unfold cumulLoadAt
  refine Nat.le_trans (sum_le_length_of_le_one _ fun x hx => ?_) (Nat.le_of_eq (List.length_map _))
  obtain ⟨u, hu, rfl⟩ := List.mem_map.1 hx
  obtain ⟨w, hw, rfl⟩ := hunits u hu
  exact C02_load_le_one cfg st ρ hρ w hw τ

/-- what the documentation promises for one required worker of task `t` -/
def ReqSpanOK (t : Task) (r : Req) (ρ : Env) : Prop :=
  let bs := ρ.i (.busyS r.worker t.name r.maybe)
  let be := ρ.i (.busyE r.worker t.name r.maybe)
  match r.sel with
  | some s =>
      (ρ.b (.sel s r.worker) = true → bs = t.startV ρ ∧ be = t.endV ρ) ∧
      (ρ.b (.sel s r.worker) = false → bs = be ∧ bs < 0)
  | none =>
      if r.dynamic then t.startV ρ ≤ bs ∧ bs ≤ be ∧ be ≤ t.endV ρ
      else bs = t.startV ρ + max 0 r.delayIn ∧ be = t.endV ρ - max 0 r.earlyOut

theorem ReqSpanOK.elim {t : Task} {r : Req} {ρ : Env} (h : ReqSpanOK t r ρ) :
    let bs := ρ.i (.busyS r.worker t.name r.maybe)
    let be := ρ.i (.busyE r.worker t.name r.maybe)
    (bs = be ∧ bs < 0) ∨ (bs = t.startV ρ ∧ be = t.endV ρ) ∨ (t.startV ρ ≤ bs ∧ bs ≤ be ∧ be ≤ t.endV ρ) ∨
      (bs = t.startV ρ + max 0 r.delayIn ∧ be = t.endV ρ - max 0 r.earlyOut) := by
  unfold ReqSpanOK at h
  split at h
  · cases hb : ρ.b (.sel _ r.worker)
    · exact Or.inl (h.2 hb)
    · exact Or.inr (Or.inl (h.1 hb))
  · split at h
    · exact Or.inr (Or.inr (Or.inl h))
    · exact Or.inr (Or.inr (Or.inr h))

/-- what the formulas of one requirement say exactly: `ReqSpanOK` with the literal busy-interval names and the parking
    instant of an unselected worker (of which `ReqSpanOK` keeps only that it is negative) -/
def ReqExact (t : Task) (r : Req) (ρ : Env) : Prop :=
  match r.sel with
  | some s =>
      (ρ.b (.sel s r.worker) = true →
        ρ.i (.busyS r.worker t.name true) = t.startV ρ ∧ ρ.i (.busyE r.worker t.name true) = t.endV ρ) ∧
      (ρ.b (.sel s r.worker) = false →
        ρ.i (.busyS r.worker t.name true) = r.past ∧ ρ.i (.busyE r.worker t.name true) = r.past)
  | none =>
      if r.dynamic then
        t.startV ρ ≤ ρ.i (.busyS r.worker t.name false) ∧
        ρ.i (.busyS r.worker t.name false) ≤ ρ.i (.busyE r.worker t.name false) ∧
        ρ.i (.busyE r.worker t.name false) ≤ t.endV ρ
      else ρ.i (.busyS r.worker t.name false) = t.startV ρ + max 0 r.delayIn ∧
        ρ.i (.busyE r.worker t.name false) = t.endV ρ - max 0 r.earlyOut

theorem Req.fmls_sat (t : Task) (r : Req) (ρ : Env) : Sat ρ (r.fmls t) ↔ ReqExact t r ρ := by
  unfold Req.fmls ReqExact
  cases r.sel with
  | some s => simp only [sem, Bool.not_eq_true]
  | none =>
      cases r.dynamic
      · -- a delay is added only when positive: `max 0 delay`
        simp only [Bool.false_eq_true, if_false, sem, Fml.eval_ite]
        omega
      · simp only [sem, if_true]
        omega

theorem ReqExact.spanOK {t : Task} {r : Req} {ρ : Env} (h : ReqExact t r ρ) (hm : r.maybe = r.sel.isSome) :
    ReqSpanOK t r ρ := by
  unfold ReqExact at h
  unfold ReqSpanOK
  cases hs : r.sel <;> simp only [hs, hm, Option.isSome] at h ⊢
  · exact h
  · refine ⟨h.1, fun hb => ?_⟩
    have := h.2 hb
    unfold Req.past at this
    omega

def Select.nSelected (s : Select) (ρ : Env) : Nat := s.workers.countP (fun w => ρ.b (.sel s.id w))

def CountOK (k : CountKind) (actual n : Nat) : Prop :=
  match k with
  | .exact => actual = n
  | .min => n ≤ actual
  | .max => actual ≤ n

theorem Select.count_flags (s : Select) (ρ : Env) : Fml.count ρ s.flags = s.nSelected ρ := count_map_bvar ρ _ _

theorem Select.assertion_eval (s : Select) (ρ : Env) : s.assertion.eval ρ ↔ CountOK s.kind (s.nSelected ρ) s.n := by
  rw [Select.assertion, pbFun_eval, s.count_flags]
  exact Iff.rfl

theorem ReqEvent.fmls_sat (t : Task) (ev : ReqEvent) (ρ : Env) :
    Sat ρ (ev.fmls t) ↔ (∀ r ∈ ev.reqs, ReqExact t r ρ) ∧
      ∀ tn s rs, ev = .viaSelect tn s rs true → CountOK s.kind (s.nSelected ρ) s.n := by
  cases ev with
  | direct tn r => simp [ReqEvent.fmls, ReqEvent.reqs, Req.fmls_sat]
  | viaSelect tn s rs wc =>
      rw [ReqEvent.fmls, Sat.append, Sat_flatMap]
      refine and_congr (forall₂_congr fun r _ => r.fmls_sat t ρ) ?_
      cases wc <;> simp [sem, Select.assertion_eval]

/-- requirements as `step` creates them: `maybe` iff through a selection -/
def ReqEvent.WF : ReqEvent → Prop
  | .direct _ r => r.maybe = false ∧ r.sel = none
  | .viaSelect _ s rs _ => ∀ r ∈ rs, r.maybe = true ∧ r.sel = some s.id

theorem ReqEvent.WF.maybe {ev : ReqEvent} (h : ev.WF) : ∀ r ∈ ev.reqs, r.maybe = r.sel.isSome := by
  intro r hr
  cases ev with
  | direct t r' =>
      simp [ReqEvent.reqs] at hr; subst hr
      simp [h.1, h.2]
  | viaSelect t s rs wc =>
      have := h r hr
      simp [this.1, this.2]

/-- **C02 (c).** Every required worker of every task is busy for the span its requirement implies:
    `[start + delay_in, end − early_out]`, a span inside the task (dynamic), the task span if selected, one negative
    instant if not selected. -/
theorem C02_busy_span (cfg : Config) (st : State) (ρ : Env) (hρ : Sat ρ (initFmls cfg st))
    (hwf : ∀ ev ∈ st.reqLog, ev.WF) :
    ∀ t ∈ st.tasks, ∀ ev ∈ st.eventsOf t.name, ∀ r ∈ ev.reqs, ReqSpanOK t r ρ :=
  fun t ht ev hev r hr => (((ev.fmls_sat t ρ).1 (hρ.init_req ht hev)).1 r hr).spanOK
    ((hwf ev (State.mem_eventsOf.1 hev).1).maybe r hr)

/-- **C02 (d).** For every executed `add_required_resource(select)` call, the number of listed workers whose selection
    flag is true satisfies the exact / min / max count (`step` builds the requirements `rs` of the call from `s.workers`,
    see `selReqs`). -/
theorem C02_selection_count (cfg : Config) (st : State) (ρ : Env) (hρ : Sat ρ (initFmls cfg st)) :
    ∀ t ∈ st.tasks, ∀ s rs, ReqEvent.viaSelect t.name s rs true ∈ st.reqLog →
      CountOK s.kind (s.nSelected ρ) s.n :=
  fun t ht s rs hev =>
    ((ReqEvent.fmls_sat t _ ρ).1 (hρ.init_req ht (State.mem_eventsOf.2 ⟨hev, rfl⟩))).2 _ s rs rfl

theorem workAmount_sat (st : State) (t : Task) (ρ : Env) :
    Sat ρ (workAmount st t) ↔
      (0 < t.work → workTerms st t ≠ [] → Scheduled ρ t → t.work ≤ Term.evalSum ρ (workTerms st t)) := by
  unfold workAmount Scheduled
  cases h : workTerms st t <;> cases t.optional <;> simp [sem]

/-- **C02 (e).** When a scheduled task has a work amount and at least one assigned worker, the sum over its workers of
    productivity × busy time reaches the amount. -/
theorem C02_work_amount (cfg : Config) (st : State) (ρ : Env) (hρ : Sat ρ (initFmls cfg st)) :
    ∀ t ∈ st.tasks, 0 < t.work → workTerms st t ≠ [] → Scheduled ρ t → t.work ≤ Term.evalSum ρ (workTerms st t) :=
  fun t ht => (workAmount_sat st t ρ).1 (hρ.init_work ht)

theorem workTerm_eval (ρ : Env) (p : Int) (w t : String) (m : Bool) :
    (Term.mul (numT p) (.sub (bE w t m) (bS w t m))).eval ρ = p * (ρ.i (.busyE w t m) - ρ.i (.busyS w t m)) := by
  simp [Term.eval, numT, bE, bS]

theorem selReqs_wf (sid base : Nat) (ws : List String) :
    ∀ r ∈ selReqs sid base ws, r.maybe = true ∧ r.sel = some sid := by
  intro r hr
  unfold selReqs at hr
  obtain ⟨i, _, rfl⟩ := List.mem_map.1 hr
  simp

/-! ### non-vacuity -/

def C02_exState : State :=
  run [.problem "p" (some 10),
       .task "A" (.fixed 3) false 2 none none true 1,
       .task "B" (.fixed 2) false 0 none none true 1,
       .worker "W" 1 (.const 0), .worker "V" 2 (.const 0),
       .cumulative "CW" 2 1 (.const 0),
       .select none ["W", "V"] 1 .exact,
       .require "A" (.select 0) false 0 0,
       .require "B" (.worker "W") false 1 0,
       .require "B" (.cumul "CW") false 0 0]

def C02_exEnv : Env :=
  { i := fun v => match v with
      | .tStart "A" => 0 | .tEnd "A" => 3 | .tStart "B" => 3 | .tEnd "B" => 5
      | .busyS "W" "A" true => 0 | .busyE "W" "A" true => 3
      | .busyS "V" "A" true => -3 | .busyE "V" "A" true => -3
      | .busyS "W" "B" false => 4 | .busyE "W" "B" false => 5
      | .busyS "CW_CumulativeWorker_1" "B" true => 3 | .busyE "CW_CumulativeWorker_1" "B" true => 5
      | .busyS "CW_CumulativeWorker_2" "B" true => -5 | .busyE "CW_CumulativeWorker_2" "B" true => -5
      | .horizon => 10
      | _ => 0
    b := fun v => match v with
      | .sel 0 "W" => true | .sel 1 "CW_CumulativeWorker_1" => true | _ => false }

example : satB C02_exEnv (initFmls {} C02_exState) = true := by decide +kernel
example : C02_exState.reqLog.length = 3 ∧ C02_exState.workers.length = 4 := by decide +kernel

end PS
