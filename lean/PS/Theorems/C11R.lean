/-
  `C11_task_iff_resource` for states a construction script produces: that the workers are pairwise different and found
  under their own names is an invariant of `step` (`reachable_wnodup`, PS/Proofs/StepWF.lean), not a hypothesis; the
  sign condition on busy intervals holds of every admitted interpretation when the declared delays fit the tasks.
-/
import PS.Theorems.Exact
import PS.Theorems.C11
namespace PS

theorem C11_task_iff_resource_reachable (st : State) (hr : Reachable st) (ρ : Env) (cal : Calendar)
    (hN : ∀ w ∈ st.workers, ∀ w' ∈ st.workers, w'.reportName = w.name → w' = w)
    (hord : ∀ w ∈ st.workers, ∀ e ∈ st.busyOf w.name,
      0 ≤ ρ.i (.busyS w.name e.1 e.2) → 0 ≤ ρ.i (.busyE w.name e.1 e.2)) :
    ∀ t ∈ st.tasks, ∀ x, x ∈ (taskSol st ρ cal t).assigned ↔
      ∃ e ∈ (buildSolution st ρ cal).resources, e.name = x ∧ ∃ s en, (t.name, s, en) ∈ e.assignments :=
  have w := reachable_wnodup st hr
  C11_task_iff_resource st ρ cal (List.Nodup.of_map _ w) hN (find?_key Worker.name st.workers w) hord

/-- the declared delays of a requirement fit the task: they leave a scheduled task a non-negative busy span whatever
    its duration, and the delay-in stays below the task number (finding F19 otherwise) -/
def Req.Fits (t : Task) (r : Req) : Prop :=
  0 ≤ t.minDur ∧ max 0 r.delayIn + max 0 r.earlyOut ≤ t.minDur ∧ max 0 r.delayIn ≤ t.num0

/-- the hypothesis `hord` of `C11_task_iff_resource` -/
theorem C11_hord_of_fits (cfg : Config) (st : State) (hr : Reachable st) (ρ : Env) (hρ : Sat ρ (initFmls cfg st))
    (hfit : ∀ t ∈ st.tasks, ∀ r ∈ st.reqsOf t.name, r.Fits t) :
    ∀ w ∈ st.workers, ∀ e ∈ st.busyOf w.name,
      0 ≤ ρ.i (.busyS w.name e.1 e.2) → 0 ≤ ρ.i (.busyE w.name e.1 e.2) := by
  intro w _ e he
  have wf := reachable_wf st hr
  obtain ⟨ev, hev, r, hrr, h1, h2, h3⟩ := busyOf_mem st w.name e he
  obtain ⟨t, ht, hn, hrq, hspan⟩ := logged_req_span cfg st ρ hρ wf.events wf.req_tasks ev hev r hrr
  have htask := C01_scheduled_or_parked cfg st ρ hρ t ht
  replace hspan := hspan.elim
  obtain ⟨f0, f1, f2⟩ := hfit t ht r hrq
  rw [← h1, ← h2, ← h3, ← hn]
  -- a parked task with a delayed static requirement may have an inverted interval, but then it starts below zero
  omega

/-- **C11 (task view ⇔ resource view), for what the encoder admits**: a state a script produces, an interpretation
    the constraint system admits, delays that fit the tasks. -/
theorem C11_task_iff_resource_admitted (cfg : Config) (st : State) (hr : Reachable st) (ρ : Env)
    (hρ : Sat ρ (initFmls cfg st)) (cal : Calendar)
    (hN : ∀ w ∈ st.workers, ∀ w' ∈ st.workers, w'.reportName = w.name → w' = w)
    (hfit : ∀ t ∈ st.tasks, ∀ r ∈ st.reqsOf t.name, r.Fits t) :
    ∀ t ∈ st.tasks, ∀ x, x ∈ (taskSol st ρ cal t).assigned ↔
      ∃ e ∈ (buildSolution st ρ cal).resources, e.name = x ∧ ∃ s en, (t.name, s, en) ∈ e.assignments :=
  C11_task_iff_resource_reachable st hr ρ cal hN (C11_hord_of_fits cfg st hr ρ hρ hfit)

end PS
