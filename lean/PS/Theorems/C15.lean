/-
  C15 — Solver options change performance and search order only, never validity.

  What the repository's own logic contributes (the behaviour of z3 under its options is trusted):
  * `C15_core_cfg_free`  – the assertion list of `initialize` is `coreFmls st`, which does not
    depend on the configuration at all, followed by the objective plumbing, which depends only on
    whether the weighted-sum objective is built; `parallel`, `random_values`, `verbosity`,
    `debug`, `logics` do not enter;
  * `C15_tracked_equiv`  – debug mode (`p_i ⇒ a_i` for fresh tracking literals `p_i`, checked under the assumption
    that all `p_i` hold) is equivalent to asserting the `a_i`;
  * every soundness theorem (C01–C04, C08–C10) is stated for *every* `cfg`, so any schedule
    returned under any configuration is valid.
  That the real assertion lists agree over `debug × optimizer × priority` is compared by ENC, verdicts and optima
  over pairs of configurations by RUN.
-/
import PS.Theorems.C01
namespace PS

/-- everything `initialize` asserts except the objective plumbing -/
def coreFmls (st : State) : List Fml :=
  (st.tasks.flatMap (fun t => st.taskAsserts t ++ [t.horizonFml])) ++
  (st.workers.flatMap (fun w => noOverlapPairs w.name (st.busyOf w.name))) ++
  ((st.constrs.filter (fun c => !c.operand)).flatMap (fun c => c.asserts)) ++
  (st.indicators.flatMap (fun i => i.asserts)) ++
  (st.tasks.flatMap (fun t => workAmount st t)) ++
  (st.buffers.flatMap (fun b => bufferFmls st b)) ++
  st.problemAsserts

/-- **C15.** The configuration enters the constraint system only through the objective plumbing. -/
theorem C15_core_cfg_free (cfg : Config) (st : State) :
    initFmls cfg st = coreFmls st ++ objectiveFmls cfg st := rfl

/-- … and that plumbing depends only on `optimizer` / `optimize_priority` -/
theorem C15_objective_plumbing (c1 c2 : Config) (st : State)
    (h : (!c1.optimize || c1.priority == "weight") = (!c2.optimize || c2.priority == "weight")) :
    objectiveFmls c1 st = objectiveFmls c2 st := by
  unfold objectiveFmls
  rw [h]

theorem C15_same_assertions (c1 c2 : Config) (st : State)
    (h : (!c1.optimize || c1.priority == "weight") = (!c2.optimize || c2.priority == "weight")) :
    initFmls c1 st = initFmls c2 st := by
  rw [C15_core_cfg_free, C15_core_cfg_free, C15_objective_plumbing c1 c2 st h]

theorem C15_single_objective (c1 c2 : Config) (st : State) (h : st.objectives.length ≤ 1) :
    initFmls c1 st = initFmls c2 st := by
  rw [C15_core_cfg_free, C15_core_cfg_free, objectiveFmls_of_le_one c1 st h, objectiveFmls_of_le_one c2 st h]

/-- debug mode: assertion `i` is tracked by literal `i` -/
def trackAll (fs : List Fml) : List Fml := (List.range fs.length).map (fun i => Fml.tracked i (fs.getD i .tt))

/-- **C15 / C19.** Under the assumption that every tracking literal holds (which is how z3
    checks a solver with tracked assertions), the tracked assertions say exactly what the plain
    ones say: debug mode does not change the constraint system. -/
theorem C15_tracked_equiv (ρ : Env) (fs : List Fml) (hp : ∀ n, ρ.p n = true) :
    Sat ρ (trackAll fs) ↔ Sat ρ fs := by
  simp only [trackAll, Sat_map, List.mem_range, Fml.eval, hp, true_implies]
  rw [Sat, List.forall_mem_iff_forall_getElem]
  exact forall₂_congr fun i hi => by rw [List.getD_eq_getElem?_getD, List.getElem?_eq_getElem hi, Option.getD_some]

/-- `C01_task_timing` as C15 reads it: the schedule is valid whatever the configuration -/
theorem C15_valid_any_cfg (cfg : Config) (st : State) (ρ : Env) (hρ : Sat ρ (initFmls cfg st)) :
    ∀ t ∈ st.tasks, Scheduled ρ t → TaskTimingOK st.horizon t ρ := C01_task_timing cfg st ρ hρ

end PS
