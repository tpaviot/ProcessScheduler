/-
  C12 — Asking for another solution enumerates distinct valid schedules, exhaustively.

  `blockingClause st ρ` is the clause `find_another_solution` adds for the current model ρ: an interpretation
  satisfies it iff it differs from ρ in some task's start, end or (for optional tasks) scheduled flag
  (`blockingClause_eval`). Hence, under `ConsistentAns` (C07.lean), a model returned for a stack that holds the
  clauses of earlier models differs in that sense from each of them (`C12_distinct`), and `unsat` means every admitted
  interpretation has the timing of one already returned (`C12_exhaustive`); the clause of
  `find_another_solution_for_variable` forces a different value (`C12_variable`). `C12_step_adds_clause` ties the
  clause to the model's `find_another_solution`; `C13_base` says that, over any call sequence, nothing but
  `initialize`'s assertions and formulas of this shape stands at level 0. On valid schedules instead of
  interpretations: C12V.lean.
-/
import PS.Theorems.C13
namespace PS

def SameTiming (st : State) (ρ ρ' : Env) : Prop :=
  ∀ t ∈ st.tasks, ρ'.i (.tStart t.name) = ρ.i (.tStart t.name) ∧ ρ'.i (.tEnd t.name) = ρ.i (.tEnd t.name) ∧
    (t.optional = true → ρ'.b (.sched t.name) = ρ.b (.sched t.name))

theorem blockingClause_eval (st : State) (ρ ρ' : Env) :
    (blockingClause st ρ).eval ρ' ↔ ¬ SameTiming st ρ ρ' := by
  unfold blockingClause SameTiming
  -- a disjunction over the tasks, against the negation of a conjunction over the tasks: task by task
  simp only [Fml.eval, evalAny_flatMap, Classical.not_forall, exists_prop]
  refine exists_congr fun t => and_congr_right fun _ => ?_
  cases ho : t.optional <;> cases hb : ρ.b (.sched t.name) <;>
    simp [sem, Decidable.imp_iff_not_or]

theorem Sat_blockingClauses (st : State) (prev : List Env) (ρ' : Env) :
    Sat ρ' (prev.map (blockingClause st)) ↔ ∀ ρ ∈ prev, ¬ SameTiming st ρ ρ' := by
  simp only [Sat_map, blockingClause_eval]

/-- **C12 (distinct, valid).** If the assertion stack is `initialize`'s assertions followed by the
    blocking clauses of the models returned so far (`C13_base`), a consistent `sat ρ'` answer satisfies
    `initialize`'s assertions and differs in timing from every model returned before. -/
theorem C12_distinct (st : State) (cfg : Config) (prev : List Env) (extra : List Fml) (ρ' : Env)
    (h : ConsistentAns (initFmls cfg st ++ prev.map (blockingClause st) ++ extra) (.sat ρ')) :
    Sat ρ' (initFmls cfg st) ∧ ∀ ρ ∈ prev, ¬ SameTiming st ρ ρ' := by
  simp only [ConsistentAns, Sat.append, Sat_blockingClauses] at h
  exact h.1

/-- **C12 (exhaustive).** `find_another_solution` fails on an `unsat` answer only when every
    schedule admitted by the problem has the timing of one already returned. -/
theorem C12_exhaustive (st : State) (cfg : Config) (prev : List Env)
    (h : ConsistentAns (initFmls cfg st ++ prev.map (blockingClause st)) .unsat) :
    ∀ ρ', Sat ρ' (initFmls cfg st) → ∃ ρ ∈ prev, SameTiming st ρ ρ' := by
  intro ρ' hρ'
  apply Classical.byContradiction
  intro hno
  exact h ⟨ρ', Sat.append.2 ⟨hρ', (Sat_blockingClauses st prev ρ').2 fun ρ hρ hs => hno ⟨ρ, hρ, hs⟩⟩⟩

theorem C12_variable (v : IVar) (ρ ρ' : Env) (stack : List Fml)
    (hin : Fml.ne (.var v) (numT (ρ.i v)) ∈ stack) (h : ConsistentAns stack (.sat ρ')) : ρ'.i v ≠ ρ.i v := by
  simpa only [sem] using h _ hin

/-- the clause the model adds is the one these theorems are about -/
theorem C12_step_adds_clause (st : State) (s : SolverSt) (ρ : Env) (answers : List (Answer × Int))
    (hm : s.model = some ρ) (hi : s.initialized = true) :
    ∃ tr, (s.step st .findAnother answers).s = ({ s with base := s.base ++ [blockingClause st ρ], trace := tr }.solve st answers).s := by
  simp only [SolverSt.step, hm]
  exact ⟨_, rfl⟩

end PS
