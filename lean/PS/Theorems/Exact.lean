/-
  Exactness on the scheduling core (C05, with corollaries for C07, C14, C15).

  `C05_sound_core` is the converse of `C05_complete_core` (`C05.lean`; per constraint class, `core_raw_sound` is the
  converse of `core_raw_complete`): for a problem of the fragment `InCoreS`, every interpretation ρ with a non-negative
  horizon that the assertions of `initialize` admit denotes a valid schedule, `schedOf ρ`.  With completeness the
  encoder is **exact** there (`exact_core`): the constraint system has a model iff the problem has a valid schedule
  (`C05_feasible_iff`), the values an indicator takes in admitted interpretations are its values on valid schedules
  (`C07_core_attainable`), the verdict does not depend on the configuration (`C15_core_verdict_cfg_free`), and
  problems with the same valid schedules get the same verdict and admit the same schedules (`C14_core_verdict`,
  `C14_core_schedules`).

  `InCoreS` is `InCore` narrowed to what has a converse: the constraint classes of `CBody.inCoreS`, optional or not
  (`PS/Spec/Fragment.lean`; those over formulas must mention the problem's own variables only, `State.plainF`), and
  indicators whose equation reads own variables.  Its well-formedness part is an invariant of `step`; the rest is the
  executable test `State.fragmentB`, which the driver evaluates for every generated script (`fragmentB_sound`).

  The idea: the witness `envOf st (schedOf ρ)` of the completeness theorem gives the problem's own variables the
  values ρ gives them (`agree_own2`) — an unscheduled task *is* parked at `-(task number)`, an unselected worker at
  its negative integer, because the assertions say so — and `Valid` reads the witness on own variables only
  (`Own.lean`).  `structure Exact` is what the corollaries need of an encoding; they are proved from it once and
  instantiated again for several objectives (`Multi.lean`) and task groups (`Groups.lean`).
-/
import PS.Theorems.Own
import PS.Theorems.C15
import PS.Proofs.StepWF
namespace PS

/-- the user-level schedule an interpretation denotes -/
def schedOf (ρ : Env) : Sched :=
  { sched := fun n => ρ.b (.sched n)
    start := fun n => ρ.i (.tStart n)
    end_ := fun n => ρ.i (.tEnd n)
    dur := fun n => ρ.i (.tDur n)
    sel := fun s w => ρ.b (.sel s w)
    applied := fun c => ρ.b (.applied c)
    dynS := fun w t => ρ.i (.busyS w t false)
    dynE := fun w t => ρ.i (.busyE w t false)
    horizon := ρ.i .horizon }

theorem isSched_schedOf (ρ : Env) (t : Task) : (schedOf ρ).isSched t = true ↔ Scheduled ρ t := by
  unfold Sched.isSched Scheduled schedOf
  cases t.optional <;> simp

theorem schedOf_start (ρ : Env) (t : Task) : (schedOf ρ).start t.name = t.startV ρ := rfl
theorem schedOf_end (ρ : Env) (t : Task) : (schedOf ρ).end_ t.name = t.endV ρ := rfl
theorem schedOf_sched (ρ : Env) (n : String) : (schedOf ρ).sched n = ρ.b (.sched n) := rfl

theorem CoreMeaning_schedOf (st : State) (ρ : Env) (b : CBody) (hb : b.taskExact = true) :
    CoreMeaning st (schedOf ρ) b ↔ TaskMeaning ρ b := by
  cases b <;> cases hb <;>
    simp only [CoreMeaning, TaskMeaning, isSched_schedOf, schedOf_start, schedOf_end, schedOf_sched, countSched]
  exact Iff.rfl  -- ForceScheduleNOptionalTasks: the same count

theorem CBody.inCoreS_inCore (st : State) (id : Nat) (b : CBody) (h : b.inCoreS st id = true) : b.inCore = true := by
  cases b <;> first | rfl | cases h

/-- the fragment of the exactness theorems: tasks of every kind, workers (cumulative workers are workers), selections,
    dynamic assignment, work amounts, the constraint classes of `CBody.inCoreS` (optional or not), indicators defined
    by one equation over own variables, no buffer, at most one objective -/
structure InCoreS (st : State) : Prop where
  names : NamesOK st
  reqs : ReqsOK st
  events : ∀ ev ∈ st.reqLog, ev.WF
  /-- every logged requirement belongs to a declared task (an invariant of `step`) -/
  req_tasks : ∀ ev ∈ st.reqLog, ∃ t ∈ st.tasks, t.name = ev.task
  constrs : ∀ c ∈ st.constrs, c.operand = false →
    c.body.inCoreS st c.id = true ∧ (c.optional = true → c.body.direct = false) ∧
    ∀ t ∈ c.body.coreTasks, st.findTask t.name = some t
  indicators : IndsOK st
  ind_plain : ∀ ind ∈ st.indicators, ∀ T, ind.body.defTerm = some T → T.plainIn st.ownI ownB = true
  no_buffers : st.buffers = []
  single_objective : st.objectives.length ≤ 1

theorem InCoreS.inCore {st : State} (h : InCoreS st) : InCore st where
  names := h.names
  reqs := h.reqs
  constrs := fun c hc hop =>
    ⟨CBody.inCoreS_inCore _ _ _ (h.constrs c hc hop).1, (h.constrs c hc hop).2.1, (h.constrs c hc hop).2.2⟩
  indicators := h.indicators
  no_buffers := h.no_buffers
  single_objective := h.single_objective

/-- for a state a script produces, the well-formedness part of `InCoreS` (task names identify tasks, requirement events
    are well formed and belong to declared tasks) is an invariant of `step` (`reachable_wf`); what remains are
    conditions on which elements the script declared -/
theorem InCoreS.of_reachable {st : State} (hr : Reachable st) (hreqs : ReqsOK st)
    (hconstrs : ∀ c ∈ st.constrs, c.operand = false →
      c.body.inCoreS st c.id = true ∧ (c.optional = true → c.body.direct = false) ∧
      ∀ t ∈ c.body.coreTasks, st.findTask t.name = some t)
    (hinds : IndsOK st)
    (hplain : ∀ ind ∈ st.indicators, ∀ T, ind.body.defTerm = some T → T.plainIn st.ownI ownB = true)
    (hbuf : st.buffers = []) (hobj : st.objectives.length ≤ 1) : InCoreS st :=
  have w := reachable_wf st hr
  ⟨find?_key Task.name st.tasks w.nodup, hreqs, w.events, w.req_tasks, hconstrs, hinds, hplain, hbuf, hobj⟩

/-- the executable fragment test (`PS/Spec/Fragment.lean`, evaluated by the driver on every generated script) is
    sufficient.  Stated for a well-formed state: besides reachable ones (`fragmentB_sound`) it is applied to `noObj`,
    `noGroups` and `dropTask` of a reachable state -/
theorem fragmentB_sound_wf {st : State} (hr : WFInv st) (h : st.fragmentB = true) : InCoreS st := by
  simp only [State.fragmentB, Bool.and_eq_true, List.all_eq_true, decide_eq_true_eq, beq_iff_eq, Bool.or_eq_true,
    Bool.not_eq_true', List.isEmpty_iff] at h
  obtain ⟨⟨⟨⟨⟨h1, h2⟩, h3⟩, h4⟩, h5⟩, h6⟩ := h
  -- the test on an indicator, with its defining term named
  have hind : ∀ ind ∈ st.indicators, ∃ T, ind.body.defTerm = some T ∧ T.qf = true ∧
      T.varsIn (fun v => !v.isInd) = true ∧ T.plainIn st.ownI ownB = true := by
    intro ind hi
    have := (h3 ind hi).2
    cases hT : ind.body.defTerm with
    | none => simp [hT] at this
    | some T => simpa [hT, and_assoc] using this
  refine ⟨find?_key Task.name st.tasks hr.nodup, h1, hr.events, hr.req_tasks, fun c hc hop => ?_,
    ⟨fun ind hi => (h3 ind hi).1, h4, fun ind hi => ?_⟩, fun ind hi T hT => ?_, h5, h6⟩
  · obtain ⟨⟨ha, hb⟩, hcT⟩ := (h2 c hc).resolve_left (by simp [hop])
    exact ⟨ha, fun ho => hb.resolve_left (by simp [ho]), hcT⟩
  · obtain ⟨T, hT, hq, hv, _⟩ := hind ind hi
    exact ⟨T, hT, hq, hv⟩
  · obtain ⟨T', hT', _, _, hp⟩ := hind ind hi
    exact Option.some.inj (hT'.symm.trans hT) ▸ hp

theorem fragmentB_sound {st : State} (hr : Reachable st) (h : st.fragmentB = true) : InCoreS st :=
  fragmentB_sound_wf (reachable_wf st hr) h

/-- an unscheduled task is parked where the witness expects it: the assertions say so -/
theorem taskOf_schedOf (cfg : Config) (st : State) (ρ : Env) (hρ : Sat ρ (initFmls cfg st))
    (t : Task) (ht : t ∈ st.tasks) :
    tStartOf (schedOf ρ) t = ρ.i (.tStart t.name) ∧ tEndOf (schedOf ρ) t = ρ.i (.tEnd t.name) ∧
    (t.isVar = true → tDurOf (schedOf ρ) t = ρ.i (.tDur t.name)) := by
  unfold tStartOf tEndOf tDurOf
  by_cases hs : (schedOf ρ).isSched t = true
  · simp only [if_pos hs]; exact ⟨rfl, rfl, fun _ => rfl⟩
  · obtain ⟨ho, hb⟩ := Scheduled.not_iff.1 (mt (isSched_schedOf ρ t).2 hs)
    obtain ⟨h1, h2, h3⟩ := hρ.init_parked ht ho hb
    simp only [if_neg hs]; exact ⟨h1.symm, h2.symm, fun hv => (h3 hv).symm⟩

theorem envOf_schedOf_task (cfg : Config) (st : State) (ρ : Env) (hρ : Sat ρ (initFmls cfg st))
    (t : Task) (ht : t ∈ st.tasks) (hf : st.findTask t.name = some t) :
    (envOf st (schedOf ρ)).i (.tStart t.name) = ρ.i (.tStart t.name) ∧
    (envOf st (schedOf ρ)).i (.tEnd t.name) = ρ.i (.tEnd t.name) := by
  rw [envOf_tStart st _ t hf, envOf_tEnd st _ t hf]
  exact ⟨(taskOf_schedOf cfg st ρ hρ t ht).1, (taskOf_schedOf cfg st ρ hρ t ht).2.1⟩

theorem busyOfReq_schedOf (cfg : Config) (st : State) (ρ : Env) (hρ : Sat ρ (initFmls cfg st))
    (hwf : ∀ ev ∈ st.reqLog, ev.WF)
    (t : Task) (ht : t ∈ st.tasks) (ev : ReqEvent) (hev : ev ∈ st.eventsOf t.name) (r : Req) (hr : r ∈ ev.reqs) :
    (busyOfReq (schedOf ρ) t r).1 = ρ.i (.busyS r.worker t.name r.maybe) ∧
    (busyOfReq (schedOf ρ) t r).2 = ρ.i (.busyE r.worker t.name r.maybe) := by
  have hm := (hwf ev (State.mem_eventsOf.1 hev).1).maybe r hr
  have h := ((ev.fmls_sat t ρ).1 (hρ.init_req ht hev)).1 r hr
  obtain ⟨hS, hE, _⟩ := taskOf_schedOf cfg st ρ hρ t ht
  unfold ReqExact at h
  unfold busyOfReq
  cases hs : r.sel with
  | some s =>
      have hb : (schedOf ρ).sel s r.worker = ρ.b (.sel s r.worker) := rfl
      simp only [hs, hm, Option.isSome, hb, hS, hE] at h ⊢
      cases hsel : ρ.b (.sel s r.worker)
      · rw [if_neg Bool.false_ne_true]; exact ⟨(h.2 hsel).1.symm, (h.2 hsel).2.symm⟩
      · rw [if_pos rfl]; exact ⟨(h.1 hsel).1.symm, (h.1 hsel).2.symm⟩
  | none =>
      simp only [hs, hm, Option.isSome, hS, hE] at h ⊢
      cases hd : r.dynamic <;> simp only [hd, if_true, Bool.false_eq_true, if_false] at h ⊢
      · exact ⟨h.1.symm, h.2.symm⟩
      · -- a dynamic worker of an unscheduled task: the three inequalities pin it to the parked task
        by_cases hsch : (schedOf ρ).isSched t = true
        · rw [if_pos hsch]; exact ⟨rfl, rfl⟩
        · rw [if_neg hsch]
          simp only [tStartOf, tEndOf, hsch, Bool.false_eq_true, if_false] at hS hE
          simp only [Task.startV, Task.endV] at h
          constructor <;> omega

theorem envOf_schedOf_busy (cfg : Config) (st : State) (ρ : Env) (hρ : Sat ρ (initFmls cfg st))
    (hwf : ∀ ev ∈ st.reqLog, ev.WF) (hreqs : ReqsOK st)
    (t : Task) (ht : t ∈ st.tasks) (hf : st.findTask t.name = some t)
    (ev : ReqEvent) (hev : ev ∈ st.eventsOf t.name) (r : Req) (hr : r ∈ ev.reqs) :
    (envOf st (schedOf ρ)).i (.busyS r.worker t.name r.maybe) = ρ.i (.busyS r.worker t.name r.maybe) ∧
    (envOf st (schedOf ρ)).i (.busyE r.worker t.name r.maybe) = ρ.i (.busyE r.worker t.name r.maybe) := by
  obtain ⟨e1, e2⟩ :=
    envOf_busy st (schedOf ρ) t r r.maybe hf (hreqs t ht r (State.mem_reqsOf.2 ⟨ev, hev, hr⟩))
  rw [e1, e2]
  exact busyOfReq_schedOf cfg st ρ hρ hwf t ht ev hev r hr

theorem logged_event_task {st : State} (htasks : ∀ ev ∈ st.reqLog, ∃ t ∈ st.tasks, t.name = ev.task)
    {ev : ReqEvent} (hev : ev ∈ st.reqLog) : ∃ t ∈ st.tasks, t.name = ev.task ∧ ev ∈ st.eventsOf t.name := by
  obtain ⟨t, ht, hn⟩ := htasks ev hev
  exact ⟨t, ht, hn, State.mem_eventsOf.2 ⟨hev, hn.symm⟩⟩

theorem agree_own (cfg : Config) (st : State) (ρ : Env) (hρ : Sat ρ (initFmls cfg st)) (hc : InCoreS st) :
    Env.AgreeOn2 st.ownI ownB ρ (envOf st (schedOf ρ)) where
  i := by
    have busy : ∀ {w n m}, st.ownI (.busyS w n m) = true →
        (envOf st (schedOf ρ)).i (.busyS w n m) = ρ.i (.busyS w n m) ∧
        (envOf st (schedOf ρ)).i (.busyE w n m) = ρ.i (.busyE w n m) := by
      intro w n m hv
      obtain ⟨ev, hev, r, hr, rfl, rfl, rfl⟩ := ownI_busy.1 hv
      obtain ⟨t, ht, hn, hev'⟩ := logged_event_task hc.req_tasks hev
      rw [← hn]
      exact envOf_schedOf_busy cfg st ρ hρ hc.events hc.reqs t ht (hc.names t ht) ev hev' r hr
    intro v hv
    cases v <;> simp only [State.ownI, Bool.false_eq_true] at hv
    case tStart n =>
      obtain ⟨t, hf⟩ := Option.isSome_iff_exists.1 hv
      obtain ⟨hm, rfl⟩ := find?_beq_some hf
      exact (envOf_schedOf_task cfg st ρ hρ t hm hf).1.symm
    case tEnd n =>
      obtain ⟨t, hf⟩ := Option.isSome_iff_exists.1 hv
      obtain ⟨hm, rfl⟩ := find?_beq_some hf
      exact (envOf_schedOf_task cfg st ρ hρ t hm hf).2.symm
    case tDur n =>
      cases hf : st.findTask n <;> simp only [hf, Bool.false_eq_true] at hv
      obtain ⟨hm, rfl⟩ := find?_beq_some hf
      rw [envOf_tDur st _ _ hf, (taskOf_schedOf cfg st ρ hρ _ hm).2.2 hv]
    case busyS => exact (busy hv).1.symm
    case busyE => exact (busy hv).2.symm
    case horizon => rfl
  b := by
    intro v hv
    cases v <;> first | rfl | cases hv

theorem Env.AgreeOn2.own2 {st : State} (hc : InCoreS st) {ρ ρ' : Env} (h : Env.AgreeOn2 st.ownI ownB ρ ρ')
    (hρ : ∀ ind ∈ st.indicators, ∀ T, ind.body.defTerm = some T → ρ.i ind.var = T.eval ρ)
    (hρ' : ∀ ind ∈ st.indicators, ∀ T, ind.body.defTerm = some T → ρ'.i ind.var = T.eval ρ') :
    Env.AgreeOn2 st.ownI2 ownB ρ ρ' where
  i := by
    intro v hv
    by_cases ho : st.ownI v = true
    · exact h.i v ho
    · simp only [State.ownI2, ho, Bool.false_or] at hv
      obtain ⟨ind, hi, hv'⟩ := List.any_eq_true.1 hv
      obtain ⟨T, hT, _, _⟩ := hc.indicators.simple ind hi
      rw [← eq_of_beq hv', hρ ind hi T hT, hρ' ind hi T hT]
      exact eval_congr2_term _ _ _ _ h T (hc.ind_plain ind hi T hT)
  b := h.b

/-- on the indicator variables too: the assertions force ρ to the value of the defining term, the witness takes it by
    definition, and the term reads own variables -/
theorem agree_own2 (cfg : Config) (st : State) (ρ : Env) (hρ : Sat ρ (initFmls cfg st)) (hc : InCoreS st) :
    Env.AgreeOn2 st.ownI2 ownB ρ (envOf st (schedOf ρ)) :=
  Env.AgreeOn2.own2 hc (agree_own cfg st ρ hρ hc)
    (fun _ hi _ hT => (Indicator.asserts_sat hT ρ).1 (hρ.init_indicator hi))
    (fun ind hi T hT => envOf_indicator st _ hc.indicators ind hi T hT)

theorem State.fitsB_req {st : State} (h : st.fitsB = true) {t : Task} (ht : t ∈ st.tasks) {r : Req}
    (hr : r ∈ st.reqsOf t.name) :
    max 0 r.delayIn + max 0 r.earlyOut ≤ t.minDur ∧ (t.optional = true → r.delayIn ≤ 0 ∧ r.earlyOut ≤ 0) := by
  simp only [State.fitsB, List.all_eq_true, Bool.and_eq_true, decide_eq_true_eq, Bool.or_eq_true, Bool.not_eq_true'] at h
  obtain ⟨h1, h2⟩ := (h t ht).2 r hr
  exact ⟨h1, fun ho => h2.resolve_left (by simp [ho])⟩

theorem Task.DurOK.minDur_le {t : Task} {d : Int} : t.DurOK d → t.minDur ≤ d := by
  unfold Task.DurOK Task.minDur
  cases t.kind with
  | fixed _ | zero => exact fun h => Int.le_of_eq h.symm
  | var => exact fun h => h.1

theorem C01_scheduled_or_parked (cfg : Config) (st : State) (ρ : Env) (hρ : Sat ρ (initFmls cfg st))
    (t : Task) (ht : t ∈ st.tasks) :
    (0 ≤ t.startV ρ ∧ t.startV ρ + t.minDur ≤ t.endV ρ) ∨
    (t.optional = true ∧ t.startV ρ = -((t.num0 : Int) + 1) ∧ t.endV ρ = -((t.num0 : Int) + 1)) := by
  by_cases hs : Scheduled ρ t
  · have tt := C01_task_timing cfg st ρ hρ t ht hs
    have := tt.durOK.minDur_le
    exact .inl ⟨tt.start_nonneg, by have := tt.duration; omega⟩
  · obtain ⟨ho, hb⟩ := Scheduled.not_iff.1 hs
    obtain ⟨p1, p2, _⟩ := hρ.init_parked ht ho hb
    exact .inr ⟨ho, p1, p2⟩

/-- a logged requirement belongs to a declared task, and its busy interval has the span the requirement implies -/
theorem logged_req_span (cfg : Config) (st : State) (ρ : Env) (hρ : Sat ρ (initFmls cfg st))
    (hwf : ∀ ev ∈ st.reqLog, ev.WF) (htasks : ∀ ev ∈ st.reqLog, ∃ t ∈ st.tasks, t.name = ev.task)
    (ev : ReqEvent) (hev : ev ∈ st.reqLog) (r : Req) (hr : r ∈ ev.reqs) :
    ∃ t ∈ st.tasks, t.name = ev.task ∧ r ∈ st.reqsOf t.name ∧ ReqSpanOK t r ρ := by
  obtain ⟨t, ht, hn, hev'⟩ := logged_event_task htasks hev
  exact ⟨t, ht, hn, State.mem_reqsOf.2 ⟨ev, hev', hr⟩, C02_busy_span cfg st ρ hρ hwf t ht ev hev' r hr⟩

theorem busy_le (cfg : Config) (st : State) (ρ : Env) (hρ : Sat ρ (initFmls cfg st)) (hc : InCoreS st)
    (hfit : st.fitsB = true) (b : BusyRef) (hb : st.ownsBusy b = true) : b.sV ρ ≤ b.eV ρ := by
  obtain ⟨w, n, m⟩ := b
  simp only [State.ownsBusy, Bool.and_eq_true] at hb
  obtain ⟨ev, hev, r, hr, rfl, rfl, rfl⟩ := ownI_busy.1 hb.1
  obtain ⟨t, ht, hn, hrq, hspan⟩ := logged_req_span cfg st ρ hρ hc.events hc.req_tasks ev hev r hr
  have htask := C01_scheduled_or_parked cfg st ρ hρ t ht
  obtain ⟨hroom, hopt⟩ := st.fitsB_req hfit ht hrq
  show ρ.i (.busyS r.worker ev.task r.maybe) ≤ ρ.i (.busyE r.worker ev.task r.maybe)
  rw [← hn]
  -- the span of the task leaves room for the delays: an optional task has none (`fitsB`), so neither has a parked one
  have : t.startV ρ + max 0 r.delayIn ≤ t.endV ρ - max 0 r.earlyOut := by
    rcases htask with ⟨_, a⟩ | ⟨ho, a, b⟩
    · omega
    · have := hopt ho
      omega
  clear hroom hopt htask
  rcases hspan.elim with c | c | c | c <;> omega

/-! ### soundness: what C03 / C04 / C10 prove of ρ, read on the witness of `schedOf ρ` -/

theorem core_raw_sound (st : State) (ρ : Env) (hag : Env.AgreeOn2 st.ownI2 ownB ρ (envOf st (schedOf ρ)))
    (hle : st.fitsB = true → ∀ b : BusyRef, st.ownsBusy b = true → b.sV ρ ≤ b.eV ρ)
    (c : Nat) (b : CBody) (hb : b.inCoreS st c = true)
    (h : Sat ρ (b.raw c)) : CoreMeaning st (schedOf ρ) b := by
  -- the witness gives ρ's values to own variables, hence the same value to every formula over them
  have durv : ∀ t : Task, st.findTask t.name = some t → t.isVar = true →
      (envOf st (schedOf ρ)).i (.tDur t.name) = ρ.i (.tDur t.name) :=
    fun t hf hv => (hag.dur hf hv).symm
  have plain : ∀ a, st.plainF a = true → (a.eval ρ ↔ a.eval (envOf st (schedOf ρ))) :=
    fun a ha => eval_congr2_fml _ _ _ _ hag a ha
  have hT := C03_raw_sound c b ρ h
  have hR := C04_raw_sound c b ρ h
  cases b <;> simp only [CBody.inCoreS, CBody.isConn, Bool.false_eq_true, Bool.false_and, Bool.true_and,
    Bool.and_eq_true, List.all_eq_true, decide_eq_true_eq, beq_iff_eq, and_assoc] at hb
  case startAt | startAfter | endAt | endBefore | precedence | startSynced | endSynced | forceSchedule | dependency
      | forceScheduleN => exact (CoreMeaning_schedOf st ρ _ rfl).2 hT
  all_goals simp only [CoreMeaning, CBody.isConn, if_true]
  case dontOverlap t1 t2 =>
    simp only [isSched_schedOf, schedOf_start, schedOf_end, sem]
    simp only [CBody.raw, sem] at h
    -- `xor` of the two orders: one holds, not both
    exact fun h1 h2 => by have := h h1 h2; omega
  case forceApplyN cs n kind => exact (C10_forceApplyN c cs n kind ρ).1 h
  case sameWorkers => exact hR
  case conditionSchedule t cond =>
    rw [← plain cond hb]
    exact hT
  case fromExpr | not_ | or_ | and_ | xor_ | implies | ifThenElse =>
    exact (C10_connective_raw c _ rfl _).1 fun a ha => (plain a (hb a ha)).1 (h a ha)
  case unavailable busy ivs =>
    intro b' hb' iv hiv
    obtain ⟨e1, e2⟩ := hag.busy (Bool.and_eq_true_iff.2 (hb b' hb'))
    rw [← e1, ← e2]
    exact hR b' hb' iv hiv
  -- the interruption classes: C04 proves the `…OK` form; on a busy interval with start ≤ end (`hle`) it is the `…Exact`
  -- form the specification asks for
  case interrupted ws ivs =>
    obtain ⟨hwf, hfit, hrefs⟩ := hb
    refine ⟨hwf, fun w hw bt hbt => ?_⟩
    obtain ⟨hown, hf⟩ := hrefs w hw bt hbt
    obtain ⟨e1, e2⟩ := hag.busy hown
    have hse := hle hfit bt.1 hown
    rw [← e1, ← e2, ← InterruptedExact_congr ρ _ _ _ bt.2 ivs (durv bt.2 hf)]
    exact ⟨hse, InterruptedOK.exact (hR hwf w hw bt hbt) hse⟩
  case periodicallyUnavailable busy ivs period start offset end_ =>
    obtain ⟨hwf, hfit, hrefs⟩ := hb
    refine ⟨hwf, fun b' hb' => ?_⟩
    obtain ⟨e1, e2⟩ := hag.busy (hrefs b' hb')
    unfold PeriodicMasked
    rw [← e1, ← e2]
    exact ⟨hle hfit b' (hrefs b' hb'), fun iv hiv => or_iff_not_imp_left.2
      (C04_periodic_own_period c busy ivs period start offset end_ ρ h b' hb' iv hiv)⟩
  case periodicallyInterrupted busy ivs period start offset end_ =>
    obtain ⟨hp, hwf, hfit, hrefs⟩ := hb
    refine ⟨hp, hwf, fun bt hbt => ?_⟩
    obtain ⟨hown, hf⟩ := hrefs bt hbt
    obtain ⟨e1, e2⟩ := hag.busy hown
    have hse := hle hfit bt.1 hown
    unfold PeriodicMasked
    rw [← e1, ← e2, ← PeriodicInterruptedExact_congr ρ _ _ _ bt.2 ivs period offset (durv bt.2 hf)]
    exact ⟨hse, or_iff_not_imp_left.2 fun hmask => (hR hp hwf bt hbt hmask).exact hse⟩
  case indicatorTarget v value =>
    rw [← hag.indicator hb]
    exact h _ (List.mem_singleton_self _)
  case indicatorBounds v lo hi =>
    rw [← hag.indicator hb]
    exact ⟨fun l hl => h (.ge (.var v) (numT l)) (by simp [CBody.raw, hl]),
           fun u hu => h (.le (.var v) (numT u)) (by simp [CBody.raw, hu])⟩

/-- **C05 (soundness, scheduling core).** Every interpretation the constraint system admits denotes a schedule that
    satisfies the documented meaning of every element of the problem. -/
theorem C05_sound_core (cfg : Config) (st : State) (ρ : Env) (hc : InCoreS st)
    (hρ : Sat ρ (initFmls cfg st)) (hH : 0 ≤ ρ.i .horizon) : Valid st (schedOf ρ) where
  horizon_nonneg := hH
  horizon_le := (st.problemAsserts_sat ρ).1 hρ.init_problem
  tasks := by
    intro t ht hs
    have h := C01_task_timing cfg st ρ hρ t ht ((isSched_schedOf ρ t).1 hs)
    exact ⟨h.start_nonneg, h.end_le_horizon, h.duration, h.durOK, h.release, h.deadline⟩
  dyn := by
    intro t ht r hr hsel hdyn _
    obtain ⟨ev, hev, hrev⟩ := State.mem_reqsOf.1 hr
    have h := ((ev.fmls_sat t ρ).1 (hρ.init_req ht hev)).1 r hrev
    unfold ReqExact at h
    rw [hsel] at h
    simp only [hdyn, if_true] at h
    exact h
  counts := by
    intro t ht s rs hmem
    exact C02_selection_count cfg st ρ hρ t ht s rs (State.mem_eventsOf.1 hmem).1
  no_overlap := fun w hw =>
    no_overlap_congr st _ _ (agree_own2 cfg st ρ hρ hc) w.name (C02_no_overlap cfg st ρ hρ w hw)
  work := by
    intro t ht hw hne hs
    rw [← workSum_congr st _ _ (agree_own2 cfg st ρ hρ hc) t]
    exact C02_work_amount cfg st ρ hρ t ht hw hne ((isSched_schedOf ρ t).1 hs)
  constrs := fun c hcm hop happ =>
    core_raw_sound st ρ (agree_own2 cfg st ρ hρ hc) (fun hfit b hb => busy_le cfg st ρ hρ hc hfit b hb)
      c.id c.body (hc.constrs c hcm hop).1 (hρ.init_raw hcm hop happ)

/-- The assertion list `A` says exactly `V`: a model of `A` with a non-negative horizon denotes (`schedOf`) a schedule
    in `V`, and `enc` turns a schedule in `V` into such a model.  The theorems on verdicts, attainable values,
    optimality and enumeration need this of an encoding and nothing else; instances: the scheduling core
    (`exact_core`), several objectives (`Exact.multi`), task groups (`exact_groups`). -/
structure Exact (A : List Fml) (V : Sched → Prop) (enc : Sched → Env) : Prop where
  sound : ∀ ρ, Sat ρ A → 0 ≤ ρ.i .horizon → V (schedOf ρ)
  complete : Complete A V enc
  horizon : ∀ σ, V σ → 0 ≤ (enc σ).i .horizon

namespace Exact
variable {A A' : List Fml} {V V' : Sched → Prop} {enc enc' : Sched → Env}

theorem feasible_iff (h : Exact A V enc) : (∃ ρ, Sat ρ A ∧ 0 ≤ ρ.i .horizon) ↔ ∃ σ, V σ :=
  ⟨fun ⟨ρ, hρ, hH⟩ => ⟨_, h.sound ρ hρ hH⟩, fun ⟨σ, hv⟩ => ⟨_, h.complete σ hv, h.horizon σ hv⟩⟩

theorem verdict_congr (h : Exact A V enc) (h' : Exact A' V' enc') (hsame : ∀ σ, V σ ↔ V' σ) :
    (∃ ρ, Sat ρ A ∧ 0 ≤ ρ.i .horizon) ↔ (∃ ρ, Sat ρ A' ∧ 0 ≤ ρ.i .horizon) :=
  h.feasible_iff.trans ((exists_congr hsame).trans h'.feasible_iff.symm)

theorem transfer (h : Exact A V enc) (h' : Exact A' V' enc') (hsame : ∀ σ, V σ → V' σ) {ρ : Env}
    (hρ : Sat ρ A) (hH : 0 ≤ ρ.i .horizon) : Sat (enc' (schedOf ρ)) A' :=
  h'.complete _ (hsame _ (h.sound ρ hρ hH))

/-- a quantity read `f` on interpretations and `g` on schedules takes the same values on both sides -/
theorem attainable (h : Exact A V enc) (f : Env → Int) (g : Sched → Int)
    (hs : ∀ ρ, Sat ρ A → f ρ = g (schedOf ρ)) (hc : ∀ σ, V σ → f (enc σ) = g σ) (k : Int) :
    (∃ ρ, Sat ρ A ∧ 0 ≤ ρ.i .horizon ∧ f ρ = k) ↔ ∃ σ, V σ ∧ g σ = k :=
  ⟨fun ⟨ρ, hρ, hH, hk⟩ => ⟨_, h.sound ρ hρ hH, hs ρ hρ ▸ hk⟩,
   fun ⟨σ, hv, hk⟩ => ⟨_, h.complete σ hv, h.horizon σ hv, (hc σ hv).trans hk⟩⟩

end Exact

theorem exact_core (cfg : Config) {st : State} (hc : InCoreS st) : Exact (initFmls cfg st) (Valid st) (envOf st) :=
  ⟨fun ρ => C05_sound_core cfg st ρ hc, fun σ => C05_complete_core cfg st σ hc.inCore, fun _ hv => hv.horizon_nonneg⟩

/-- **C05 (exactness, scheduling core).** The constraint system has a model iff the problem has a valid schedule,
    under every solver configuration: on this fragment the feasibility verdict of a correct SMT solver *is* the
    documented meaning. -/
theorem C05_feasible_iff (cfg : Config) (st : State) (hc : InCoreS st) :
    (∃ ρ, Sat ρ (initFmls cfg st) ∧ 0 ≤ ρ.i .horizon) ↔ ∃ σ, Valid st σ :=
  (exact_core cfg hc).feasible_iff

/-- **C07 (the values the encoding can reach are the values valid schedules have).** For every declared indicator —
    in particular the one an objective optimises — an integer is its value in some admitted interpretation iff it is
    its value on some valid schedule: the optimum over the constraint system is the optimum over the documented
    meaning. -/
theorem C07_core_attainable (cfg : Config) (st : State) (hc : InCoreS st) (ind : Indicator) (hi : ind ∈ st.indicators)
    (k : Int) :
    (∃ ρ, Sat ρ (initFmls cfg st) ∧ 0 ≤ ρ.i .horizon ∧ ρ.i ind.var = k) ↔
    (∃ σ, Valid st σ ∧ (envOf st σ).i ind.var = k) :=
  (exact_core cfg hc).attainable (·.i ind.var) (fun σ => (envOf st σ).i ind.var)
    (fun ρ hρ => (agree_own2 cfg st ρ hρ hc).i _ (ownI2_indicator hi)) (fun _ _ => rfl) k

/-- on bounds: what turns `C07_optimal` (no admitted interpretation is better than the one returned) into a statement
    on valid schedules -/
theorem C07_core_lower_bound (cfg : Config) (st : State) (hc : InCoreS st) (ind : Indicator) (hi : ind ∈ st.indicators)
    (k : Int) :
    (∀ ρ, Sat ρ (initFmls cfg st) → 0 ≤ ρ.i .horizon → k ≤ ρ.i ind.var) ↔
    (∀ σ, Valid st σ → k ≤ (envOf st σ).i ind.var) := by
  refine ⟨fun h σ hv => h _ ((exact_core cfg hc).complete σ hv) hv.horizon_nonneg, fun h ρ hρ hH => ?_⟩
  obtain ⟨σ, hv, hk⟩ := (C07_core_attainable cfg st hc ind hi (ρ.i ind.var)).1 ⟨ρ, hρ, hH, rfl⟩
  exact hk ▸ h σ hv

/-- the verdict does not depend on the solver configuration: with at most one objective the assertions do not -/
theorem C15_core_verdict_cfg_free (cfg cfg' : Config) (st : State) (hc : InCoreS st) :
    (∃ ρ, Sat ρ (initFmls cfg st) ∧ 0 ≤ ρ.i .horizon) ↔ (∃ ρ, Sat ρ (initFmls cfg' st) ∧ 0 ≤ ρ.i .horizon) := by
  rw [C15_single_objective cfg cfg' st hc.single_objective]

/-- **C14 (declaration order, verdict).** Two problems of the fragment whose valid schedules coincide get the same
    feasibility verdict from the encoder, whatever the configurations.  For two declaration orders of one problem the
    hypothesis comes from `C14_valid_order_free`, in each direction (`C14.lean`), and `Valid_renumber`
    (`Renumber.lean`). -/
theorem C14_core_verdict (cfg cfg' : Config) (st st' : State) (hc : InCoreS st) (hc' : InCoreS st')
    (hsame : ∀ σ, Valid st σ ↔ Valid st' σ) :
    (∃ ρ, Sat ρ (initFmls cfg st) ∧ 0 ≤ ρ.i .horizon) ↔ (∃ ρ, Sat ρ (initFmls cfg' st') ∧ 0 ≤ ρ.i .horizon) :=
  (exact_core cfg hc).verdict_congr (exact_core cfg' hc') hsame

/-- … and every schedule the encoder admits for one is admitted for the other (same task times, flags, selections,
    busy intervals) -/
theorem C14_core_schedules (cfg cfg' : Config) (st st' : State) (hc : InCoreS st) (hc' : InCoreS st')
    (hsame : ∀ σ, Valid st σ ↔ Valid st' σ) (ρ : Env) (hρ : Sat ρ (initFmls cfg st)) (hH : 0 ≤ ρ.i .horizon) :
    Sat (envOf st' (schedOf ρ)) (initFmls cfg' st') :=
  (exact_core cfg hc).transfer (exact_core cfg' hc') (fun σ => (hsame σ).1) hρ hH

/-! ### non-vacuity: a problem of the fragment (kernel-checked), a model of its constraint system, and the valid
    schedule the theorem extracts from it -/

def Exact_exState : State :=
  run [.problem "p" (some 12),
       .task "A" (.fixed 3) false 2 (some 1) (some 9) true 1,
       .task "B" (.var 1 (some 4) (some [2, 3])) true 0 none none true 1,
       .task "C" (.zero) true 0 none none true 1,
       .worker "W" 1 (.const 0), .worker "V" 2 (.const 0),
       .select none ["W", "V"] 1 .exact,
       .require "A" (.select 0) false 0 0,
       .require "B" (.worker "W") true 0 0,
       .constr none false (.precedence "A" "B" 1 .lax),
       .constr none true (.startAt "A" 2),
       .constr none false (.forceSchedule "C" false),
       .constr none false (.dontOverlap "A" "B"),
       -- a user expression, a connective over the optional constraint, a conditional scheduling, an unavailability
       .constr none false (.fromExpr (.le (.add (.var (.tEnd "A")) (numT 1)) (.var (.tStart "B")))),
       .constr none false (.not_ (.ref 1)),
       .constr none false (.implies (.gt (.var (.tStart "B")) (numT 8)) [.raw (.bvar (.sched "C"))]),
       .constr none false (.unavailable "W" [(0, 1)]),
       -- an optimisation problem: weighted tardiness (indicator 0) bounded by a constraint, flow time minimised
       .indicator (.tardiness (some ["A"])),
       .constr none false (.indicatorBounds 0 none (some 6)),
       .objective (.flowtime none)]

def Exact_exSched : Sched :=
  { sched := fun n => n == "B"
    start := fun n => if n == "A" then 1 else if n == "B" then 5 else 0
    end_ := fun n => if n == "A" then 4 else if n == "B" then 7 else 0
    dur := fun n => if n == "B" then 2 else 0
    sel := fun s w => s == 0 && w == "V"
    applied := fun c => c == 1        -- the operand of `Not` is applied, and violated: A starts at 1
    dynS := fun _ _ => 5
    dynE := fun _ _ => 6
    horizon := 10 }

/-- in one kernel evaluation of the script: the example passes the fragment test, has the elements declared above, and
    the witness interpretation of `Exact_exSched` satisfies its (quantifier-free) assertions -/
theorem Exact_ex_tests :
    Exact_exState.fragmentB = true ∧
    (Exact_exState.constrs.length = 9 ∧ Exact_exState.indicators.length = 2 ∧ Exact_exState.objectives.length = 1 ∧
      Exact_exState.reqLog.length = 2 ∧ Exact_exState.tasks.length = 3) ∧
    (initFmls {} Exact_exState).all (fun a => a.qf && a.evalB (envOf Exact_exState Exact_exSched)) = true := by
  decide +kernel

theorem Exact_ex_inCoreS : InCoreS Exact_exState := fragmentB_sound ⟨_, rfl⟩ Exact_ex_tests.1

example : Exact_exState.constrs.length = 9 ∧ Exact_exState.indicators.length = 2 ∧ Exact_exState.objectives.length = 1 ∧ Exact_exState.reqLog.length = 2 ∧ Exact_exState.tasks.length = 3 :=
  Exact_ex_tests.2.1

theorem Exact_ex_model : Sat (envOf Exact_exState Exact_exSched) (initFmls {} Exact_exState) :=
  Sat.of_evalB _ _ Exact_ex_tests.2.2

/-- the schedule read off that model is valid — by the theorem, not by inspection -/
example : Valid Exact_exState (schedOf (envOf Exact_exState Exact_exSched)) :=
  C05_sound_core {} Exact_exState _ Exact_ex_inCoreS Exact_ex_model (by decide +kernel)

/-- `C05_exState2` — the three interruption classes on one worker — is inside the fragment, and the model of its
    constraint system given there denotes a valid schedule -/
theorem Exact_ex2_inCoreS : InCoreS C05_exState2 := fragmentB_sound ⟨_, rfl⟩ (by decide +kernel)

example : Valid C05_exState2 (schedOf (envOf C05_exState2 C05_exSched2)) :=
  C05_sound_core {} C05_exState2 _ Exact_ex2_inCoreS (Sat.of_evalB _ _ C05_ex2_model) (by decide +kernel)

end PS
