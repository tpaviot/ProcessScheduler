/-
  Optimality and exhaustive enumeration read on schedules (`C07V.lean`, `C12V.lean`) and the verdict forms of C05, for
  problems with task groups: the same statements, from the completeness half of `exact_groups` (and `C05_sound_groups`
  for a returned schedule).
-/
import PS.Theorems.Groups
import PS.Theorems.C07V
import PS.Theorems.C12V
namespace PS

/-- **C07 (optimal, on schedules, with task groups).** When the incremental loop ends on `unsat`, the value of the
    returned model is no worse than the value the optimised variable takes on every valid schedule of the problem,
    groups included; "nothing found" means no valid schedule exists. -/
theorem C07_optimal_valid_groups (cfg : Config) (st : State) (hc : InCoreS st.noGroups)
    (hok : st.groupsOK = true) (hf : st.freshGroups = true) (g : Goal) (hg : notGrp g.target = true)
    (mi : Option Nat) (mt : Int) (answers : List (Answer × Int))
    (hcons : ∀ p ∈ (incLoop (initFmls cfg st) g mi mt answers {}).seen, ConsistentAns p.1 p.2)
    (hexit : (incLoop (initFmls cfg st) g mi mt answers {}).exit = "unsat") :
    let f := incLoop (initFmls cfg st) g mi mt answers {}
    (f.best = none → ¬ ∃ σ, Valid st σ) ∧
    (∀ ρ, f.best = some ρ → ∀ σ, Valid st σ → g.noWorse (ρ.i g.target) ((envOf st σ).i g.target)) :=
  (exact_groups cfg hc hok hf).complete.optimal g _ (fun σ _ => ((withGroups_agree st σ _).i _ hg).symm) mi mt answers
    hcons hexit

/-- **C12 (exhaustive, on schedules, with task groups).** An `unsat` answer to "another solution" means that every valid
    schedule of the problem, groups included, has the timing of a schedule already returned … -/
theorem C12_exhaustive_valid_groups (st : State) (cfg : Config) (prev : List Env) (hc : InCoreS st.noGroups)
    (hok : st.groupsOK = true) (hf : st.freshGroups = true)
    (h : ConsistentAns (initFmls cfg st ++ prev.map (blockingClause st)) .unsat) :
    ∀ σ, Valid st σ → ∃ ρ ∈ prev, ∀ t ∈ st.tasks,
      ρ.i (.tStart t.name) = tStartOf σ t ∧ ρ.i (.tEnd t.name) = tEndOf σ t ∧
      (t.optional = true → ρ.b (.sched t.name) = σ.sched t.name) :=
  (exact_groups cfg hc hok hf).complete.exhaustive
    (fun σ t ht => ⟨envOf_tStart st σ t (hc.names t ht), envOf_tEnd st σ t (hc.names t ht), rfl⟩) prev h

/-- … and every schedule returned is a valid one of the problem with its groups -/
theorem C12_returned_valid_groups (st : State) (cfg : Config) (prev : List Env) (extra : List Fml) (ρ' : Env)
    (hc : InCoreS st.noGroups) (hH : 0 ≤ ρ'.i .horizon)
    (h : ConsistentAns (initFmls cfg st ++ prev.map (blockingClause st) ++ extra) (.sat ρ')) :
    Valid st (schedOf ρ') ∧ ∀ ρ ∈ prev, ¬ SameTiming st ρ ρ' :=
  (C12_distinct st cfg prev extra ρ' h).imp_left (C05_sound_groups cfg st ρ' hc · hH)

/-- **C05 (verdict, with task groups).** On a problem with top-level groups that has a valid schedule, a consistent
    oracle cannot answer `unsat` to the assertions of `initialize` … -/
theorem C05_unsat_means_no_valid_schedule_groups (cfg : Config) (st : State) (hc : InCoreS st.noGroups)
    (hok : st.groupsOK = true) (hf : st.freshGroups = true)
    (hunsat : ConsistentAns (initFmls cfg st) .unsat) : ¬ ∃ σ, Valid st σ :=
  (exact_groups cfg hc hok hf).complete.unsat hunsat

/-- … and a `sat` answer with a non-negative horizon denotes a valid schedule of the problem, groups included -/
theorem C05_sat_means_valid_schedule_groups (cfg : Config) (st : State) (hc : InCoreS st.noGroups) (ρ : Env)
    (hsat : ConsistentAns (initFmls cfg st) (.sat ρ)) (hH : 0 ≤ ρ.i .horizon) : Valid st (schedOf ρ) :=
  C05_sound_groups cfg st ρ hc hsat hH

end PS
