/-
  C07 — Optimisation returns a best schedule; early stops still return valid ones.

  The incremental optimiser is `incLoop` (PS/Model/Solver.lean) run against an arbitrary oracle. "z3 is trusted" is
  the hypothesis `ConsistentAns`: a `sat ρ` answer satisfies the assertion stack the check saw, an `unsat` answer
  means the stack has no model. Under it, for every list of answers / durations, every `max_iter`, `max_time`:
  whatever the exit, the returned model satisfies the problem's assertions and is strictly better than every value
  found before (`C07_anytime`); after an `unsat` exit no admitted interpretation is strictly better (`C07_optimal`);
  the declared-bound exit attains the bound (`C07_bound_stop`); with several objectives the optimised variable is the
  weighted sum of the targets (`C07_weighted`). On valid schedules instead of interpretations: C07V.lean.
-/
import PS.Model.Solver
import PS.Proofs.InitMem
namespace PS

def ConsistentAns (stk : List Fml) : Answer → Prop
  | .sat ρ => Sat ρ stk
  | .unsat => ¬ ∃ ρ, Sat ρ stk
  | .unknown => True

def Goal.better (g : Goal) (a b : Int) : Prop := if g.isMin then a < b else b < a
def Goal.noWorse (g : Goal) (a b : Int) : Prop := if g.isMin then a ≤ b else b ≤ a

theorem boundFml_eval (g : Goal) (v : Int) (ρ : Env) : (boundFml g v).eval ρ ↔ g.better (ρ.i g.target) v := by
  unfold boundFml Goal.better
  cases g.isMin <;> simp only [sem, Bool.false_eq_true, if_false, if_true]

theorem Goal.better_trans (g : Goal) {a b c : Int} (h1 : g.better a b) (h2 : g.better b c) : g.better a c := by
  unfold Goal.better at *; by_cases h : g.isMin = true <;> simp [h] at * <;> omega

theorem Goal.not_better_noWorse (g : Goal) {a b : Int} (h : ¬ g.better a b) : g.noWorse b a := by
  unfold Goal.better at h; unfold Goal.noWorse; by_cases hm : g.isMin = true <;> simp [hm] at * <;> omega

theorem Goal.better_noWorse (g : Goal) {a b : Int} (h : g.better a b) : g.noWorse a b := by
  unfold Goal.better at h; unfold Goal.noWorse; by_cases hm : g.isMin = true <;> simp [hm] at * <;> omega

structure LoopInv (base : List Fml) (g : Goal) (l : LoopSt) : Prop where
  frames_sub : ∀ b ∈ l.frames, ∃ v ∈ l.values, b = boundFml g v
  sorted : l.values.Pairwise g.better
  best_ok : ∀ v vs, l.values = v :: vs → ∃ ρ, l.best = some ρ ∧ ρ.i g.target = v ∧ Sat ρ base
  best_none : l.values = [] → l.best = none

/-- holds only while the loop continues: an exit after `sat` records the value without pushing its bound -/
def FramesFull (g : Goal) (l : LoopSt) : Prop := ∀ v ∈ l.values, boundFml g v ∈ l.frames

def OptimalAtUnsat (base : List Fml) (g : Goal) (f : LoopSt) : Prop :=
  f.exit = "unsat" →
    (f.values = [] → ¬ ∃ ρ, Sat ρ base) ∧
    (∀ v vs, f.values = v :: vs → ∀ ρ', Sat ρ' base → g.noWorse v (ρ'.i g.target))

/-! The idea: the stack a `check()` sees says "a model of the problem strictly better than every value found". -/

theorem LoopInv.sat_stack {base g l ρ} (h : LoopInv base g l) (hρ : Sat ρ base)
    (hb : ∀ v ∈ l.values, g.better (ρ.i g.target) v) : Sat ρ (base ++ l.frames.reverse) := by
  refine Sat.append.2 ⟨hρ, fun b hb' => ?_⟩
  obtain ⟨v, hv, rfl⟩ := h.frames_sub b (List.mem_reverse.1 hb')
  exact (boundFml_eval g v ρ).2 (hb v hv)

theorem FramesFull.better_of_sat {base g l ρ} (h : FramesFull g l) (hρ : Sat ρ (base ++ l.frames.reverse)) :
    ∀ v ∈ l.values, g.better (ρ.i g.target) v :=
  fun v hv => (boundFml_eval g v ρ).1 ((Sat.append.1 hρ).2 _ (List.mem_reverse.2 (h v hv)))

/-- the invariant after a consistent `sat ρ` answer, for any state that records ρ as `LoopSt.found` does -/
theorem LoopInv.found {base g l ρ l'} (hinv : LoopInv base g l) (hfull : FramesFull g l)
    (hsat : Sat ρ (base ++ l.frames.reverse)) (hf : l'.frames = l.frames)
    (hv : l'.values = ρ.i g.target :: l.values) (hb : l'.best = some ρ) : LoopInv base g l' where
  frames_sub b hb := by
    rw [hf] at hb; rw [hv]
    exact (hinv.frames_sub b hb).imp fun _ h => ⟨List.mem_cons_of_mem _ h.1, h.2⟩
  sorted := hv ▸ List.pairwise_cons.2 ⟨hfull.better_of_sat hsat, hinv.sorted⟩
  best_ok _ _ h := ⟨ρ, hb, (List.cons.inj (hv ▸ h)).1, (Sat.append.1 hsat).1⟩
  best_none h := nomatch hv ▸ h

theorem LoopInv.optimal {base g l} (hinv : LoopInv base g l) (hu : ¬ ∃ ρ, Sat ρ (base ++ l.frames.reverse)) :
    (l.values = [] → ¬ ∃ ρ, Sat ρ base) ∧
    (∀ v vs, l.values = v :: vs → ∀ ρ', Sat ρ' base → g.noWorse v (ρ'.i g.target)) := by
  refine ⟨fun hv ⟨ρ, hρ⟩ => hu ⟨ρ, hinv.sat_stack hρ (by simp [hv])⟩, fun v vs hv ρ' hρ' => ?_⟩
  refine g.not_better_noWorse fun hbet => hu ⟨ρ', hinv.sat_stack hρ' fun w hw => ?_⟩
  have hs := hinv.sorted
  rw [hv] at hs hw
  rcases List.mem_cons.1 hw with rfl | hw
  · exact hbet
  · exact g.better_trans hbet ((List.pairwise_cons.1 hs).1 w hw)

theorem LoopInv.of_best {base g l ρ} (h : LoopInv base g l) (hb : l.best = some ρ) :
    Sat ρ base ∧ ∃ vs, l.values = ρ.i g.target :: vs := by
  match hv : l.values with
  | [] => exact nomatch (h.best_none hv).symm.trans hb
  | v :: vs =>
      obtain ⟨ρ', hb', rfl, hsat⟩ := h.best_ok v vs hv
      cases hb.symm.trans hb'
      exact ⟨hsat, vs, rfl⟩

theorem LoopInv.best_none_iff {base g l} (h : LoopInv base g l) : l.best = none ↔ l.values = [] := by
  refine ⟨fun hb => ?_, h.best_none⟩
  match hv : l.values with
  | [] => rfl
  | v :: vs => obtain ⟨ρ, hb', _⟩ := h.best_ok v vs hv; exact nomatch hb.symm.trans hb'

/-- Everything the C07 theorems use about one run of the loop, by one induction along `incLoop`. The first conjunct
    is what lets `hcons`, stated on the `seen` of the finished run, reach the answer at hand when the loop goes on. -/
theorem incLoop_post (base : List Fml) (g : Goal) (mi : Option Nat) (mt : Int)
    (answers : List (Answer × Int)) (l : LoopSt) :
    (∀ p ∈ l.seen, p ∈ (incLoop base g mi mt answers l).seen) ∧
    ((incLoop base g mi mt answers l).exit = "bound" →
      ∃ ρ, (incLoop base g mi mt answers l).best = some ρ ∧ g.bound = some (ρ.i g.target)) ∧
    (LoopInv base g l → FramesFull g l →
      (∀ p ∈ (incLoop base g mi mt answers l).seen, ConsistentAns p.1 p.2) →
      LoopInv base g (incLoop base g mi mt answers l) ∧ OptimalAtUnsat base g (incLoop base g mi mt answers l)) := by
  fun_induction incLoop base g mi mt answers l
  case case4 =>  -- `unsat`; `LoopInv` reads `frames`, `values` and `best` only: the fields of `hinv` hold as they are
    exact ⟨fun p hp => List.mem_append_left _ hp, fun h => by simp at h, fun hinv _ hcons =>
      ⟨{ hinv with }, fun _ => hinv.optimal (hcons (_, .unsat) (by simp))⟩⟩
  case case5 =>  -- `unknown`
    exact ⟨fun p hp => List.mem_append_left _ hp, fun h => by simp at h, fun hinv _ _ =>
      ⟨{ hinv with }, fun h => by simp at h⟩⟩
  case case7 ρ _ _ hb =>  -- `sat`, the declared bound is reached
    exact ⟨fun p hp => List.mem_append_left _ hp, fun _ => ⟨ρ, rfl, by simpa using hb⟩, fun hinv hfull hcons =>
      ⟨hinv.found hfull (hcons (_, .sat _) (List.mem_append_right _ (List.mem_singleton_self _))) rfl rfl rfl,
        fun h => by simp at h⟩⟩
  case case6 | case8 =>  -- `sat`, and `max_time` or the expected-time guard stops the loop
    exact ⟨fun p hp => List.mem_append_left _ hp, fun h => by simp at h, fun hinv hfull hcons =>
      ⟨hinv.found hfull (hcons (_, .sat _) (List.mem_append_right _ (List.mem_singleton_self _))) rfl rfl rfl,
        fun h => by simp at h⟩⟩
  case case9 rest l _ ρ l1 _ _ _ ih =>  -- `sat`, the loop goes on with the new bound pushed
    refine ⟨fun p hp => ih.1 p (List.mem_append_left _ hp), ih.2.1, fun hinv hfull hcons => ?_⟩
    have hs : Sat ρ (base ++ l.frames.reverse) :=
      hcons (_, .sat ρ) (ih.1 _ (List.mem_append_right _ (List.mem_singleton_self _)))
    have h1 : LoopInv base g l1 := hinv.found hfull hs rfl rfl rfl
    refine ih.2.2 ⟨?_, h1.sorted, h1.best_ok, h1.best_none⟩ ?_ hcons
    · exact fun b hb => (List.mem_cons.1 hb).elim (fun e => ⟨_, List.mem_cons_self, e⟩) (h1.frames_sub b)
    · exact fun v hv => (List.mem_cons.1 hv).elim (fun e => e ▸ List.mem_cons_self)
        fun h => List.mem_cons_of_mem _ (hfull v h)
  -- `max_iter`, or the scripted answers are exhausted
  all_goals exact ⟨fun p hp => hp, fun h => by simp at h, fun hinv _ _ =>
    ⟨{ hinv with }, fun h => by simp at h⟩⟩

theorem incLoop_spec (base : List Fml) (g : Goal) (mi : Option Nat) (mt : Int) :
    ∀ (answers : List (Answer × Int)) (l : LoopSt),
      LoopInv base g l → FramesFull g l → l.exit ≠ "unsat" →
      (∀ p ∈ (incLoop base g mi mt answers l).seen, ConsistentAns p.1 p.2) →
      LoopInv base g (incLoop base g mi mt answers l) ∧ OptimalAtUnsat base g (incLoop base g mi mt answers l) :=
  fun answers l hinv hfull _ hcons => (incLoop_post base g mi mt answers l).2.2 hinv hfull hcons

theorem incLoop_init (base : List Fml) (g : Goal) (mi : Option Nat) (mt : Int) (answers : List (Answer × Int))
    (hcons : ∀ p ∈ (incLoop base g mi mt answers {}).seen, ConsistentAns p.1 p.2) :
    LoopInv base g (incLoop base g mi mt answers {}) ∧ OptimalAtUnsat base g (incLoop base g mi mt answers {}) :=
  (incLoop_post base g mi mt answers {}).2.2 ⟨nofun, .nil, nofun, fun _ => rfl⟩ nofun hcons

/-- **C07 (anytime).** Whatever stops the loop — unsat, unknown, `max_iter`, `max_time`, the
    expected-time guard, the declared bound, or the end of the oracle's answers — if a model is
    returned it satisfies the problem's assertions, its objective value is the last value found,
    and that value is strictly better than every value found earlier. -/
theorem C07_anytime (base : List Fml) (g : Goal) (mi : Option Nat) (mt : Int) (answers : List (Answer × Int))
    (hcons : ∀ p ∈ (incLoop base g mi mt answers {}).seen, ConsistentAns p.1 p.2) :
    let f := incLoop base g mi mt answers {}
    (∀ ρ, f.best = some ρ → Sat ρ base ∧ ∃ vs, f.values = ρ.i g.target :: vs ∧ ∀ w ∈ vs, g.better (ρ.i g.target) w) ∧
    (f.best = none ↔ f.values = []) := by
  have h := (incLoop_init base g mi mt answers hcons).1
  refine ⟨fun ρ hb => ?_, h.best_none_iff⟩
  obtain ⟨hsat, vs, hv⟩ := h.of_best hb
  exact ⟨hsat, vs, hv, (List.pairwise_cons.1 (hv ▸ h.sorted)).1⟩

/-- **C07 (optimal).** If the loop ends because the oracle answered `unsat`, the returned model
    attains the best value of the objective over *all* interpretations admitted by the
    problem's assertions (and if nothing was found, the problem has no model). -/
theorem C07_optimal (base : List Fml) (g : Goal) (mi : Option Nat) (mt : Int) (answers : List (Answer × Int))
    (hcons : ∀ p ∈ (incLoop base g mi mt answers {}).seen, ConsistentAns p.1 p.2)
    (hexit : (incLoop base g mi mt answers {}).exit = "unsat") :
    let f := incLoop base g mi mt answers {}
    (f.best = none → ¬ ∃ ρ, Sat ρ base) ∧
    (∀ ρ, f.best = some ρ → ∀ ρ', Sat ρ' base → g.noWorse (ρ.i g.target) (ρ'.i g.target)) := by
  obtain ⟨h, hopt⟩ := incLoop_init base g mi mt answers hcons
  refine ⟨fun hb => (hopt hexit).1 (h.best_none_iff.1 hb), fun ρ hb => ?_⟩
  obtain ⟨_, vs, hv⟩ := h.of_best hb
  exact (hopt hexit).2 _ vs hv

theorem incLoop_bound (base : List Fml) (g : Goal) (mi : Option Nat) (mt : Int) :
    ∀ (answers : List (Answer × Int)) (l : LoopSt), l.exit ≠ "bound" →
      (incLoop base g mi mt answers l).exit = "bound" →
      ∃ ρ, (incLoop base g mi mt answers l).best = some ρ ∧ g.bound = some (ρ.i g.target) :=
  fun answers l _ => (incLoop_post base g mi mt answers l).2.1

/-- **C07 (bound stop).** If the incremental loop stops because the objective reached its declared bound,
    the returned model satisfies the problem's assertions and attains that bound; hence, whenever the declared
    bound is a true bound of the objective over the admitted interpretations (what `bounds=` promises), the
    returned model is optimal. -/
theorem C07_bound_stop (base : List Fml) (g : Goal) (mi : Option Nat) (mt : Int) (answers : List (Answer × Int))
    (hcons : ∀ p ∈ (incLoop base g mi mt answers {}).seen, ConsistentAns p.1 p.2)
    (hexit : (incLoop base g mi mt answers {}).exit = "bound") :
    ∃ ρ b, (incLoop base g mi mt answers {}).best = some ρ ∧ Sat ρ base ∧ g.bound = some b ∧ ρ.i g.target = b ∧
      ((∀ ρ', Sat ρ' base → g.noWorse b (ρ'.i g.target)) →
        ∀ ρ', Sat ρ' base → g.noWorse (ρ.i g.target) (ρ'.i g.target)) := by
  obtain ⟨ρ, hb, hbound⟩ := incLoop_bound base g mi mt answers {} (by simp) hexit
  exact ⟨ρ, _, hb, ((C07_anytime base g mi mt answers hcons).1 ρ hb).1, hbound, rfl, id⟩

/-- **C07 (weighted sum).** With several objectives and the incremental optimiser (or the built-in one in
    `weight` priority mode), the variable the optimiser works on equals, in every interpretation admitted by
    `initialize`, the weighted sum of the objectives' targets — so `C07_optimal` / `C07_bound_stop` /
    `C07_anytime` for the goal installed by `create_objective` are statements about that weighted sum. -/
theorem C07_weighted (cfg : Config) (st : State) (ρ : Env) (hρ : Sat ρ (initFmls cfg st))
    (hmany : st.objectives.length > 1) (hmode : cfg.optimize = false ∨ cfg.priority = "weight") :
    ρ.i (.ind "EquivalentIndicator") = weightedSum st.objectives ρ := by
  have hcond : (decide (st.objectives.length > 1) && (!cfg.optimize || cfg.priority == "weight")) = true := by
    rcases hmode with h | h <;> simp [hmany, h]
  obtain ⟨h1, h2⟩ := (objectiveFmls_sat cfg st ρ hcond).1 hρ.init_objective
  rw [h2, h1]

/-- … and that variable is the target of the goal the solver installs -/
theorem C07_weighted_goal (cfg : SConfig) (st : State) (g : Goal) (hmany : st.objectives.length > 1)
    (hg : mkGoal cfg st = some g) : g.target = .ind "EquivalentIndicator" := by
  unfold mkGoal at hg
  match hos : st.objectives with
  | [] => rw [hos] at hmany; simp at hmany
  | [o] => rw [hos] at hmany; simp at hmany
  | o1 :: o2 :: rest =>
      rw [hos] at hg
      simp only at hg
      split at hg
      · simp only [Option.some.injEq] at hg; rw [← hg]
      · simp at hg

end PS
