/-
  C04 — every declared resource constraint holds in every returned schedule.

  `ResMeaning ρ b` is the documented meaning of a resource-constraint body over the busy intervals the constraint was
  declared on.  Proved from the assertions of one constraint (`C04_raw_sound`) and hence for `initialize`, for
  ResourceUnavailable, WorkLoad (exact / max / min, any number of intervals and busy intervals), ResourceNonDelay,
  ResourceTasksDistance (with and without time intervals), ResourceInterrupted, ResourcePeriodicallyInterrupted,
  SameWorkers, DistinctWorkers.  Partial: ResourcePeriodicallyUnavailable, and ResourcePeriodicallyInterrupted for a
  task of fixed duration, are proved for the repetition of a window in the period the busy interval starts in
  (`C04_periodic_own_period`); the library lets the interval run into the next repetition (F13, F39).  The interruption
  and periodic classes come with their converses (`*_complete`), which the exactness theorem uses.
-/
import PS.Theorems.C10
import PS.Proofs.Sort
import PS.Proofs.Periodic
import PS.Proofs.Rank
namespace PS

/-- time a busy interval `[s, e]` spends inside `[lo, hi]` -/
def overlapLen (s e lo hi : Int) : Int := max 0 (min e hi - max s lo)

def BusyRef.sV (b : BusyRef) (ρ : Env) : Int := ρ.i (.busyS b.worker b.task b.maybe)
def BusyRef.eV (b : BusyRef) (ρ : Env) : Int := ρ.i (.busyE b.worker b.task b.maybe)

attribute [sem] BusyRef.sV BusyRef.eV

def busyInside (ρ : Env) (busy : List BusyRef) (lo hi : Int) : Int :=
  (busy.map (fun b => overlapLen (b.sV ρ) (b.eV ρ) lo hi)).sum

def cmpHolds (k : CountKind) (a b : Int) : Prop :=
  match k with
  | .exact => a = b
  | .max => a ≤ b
  | .min => b ≤ a

@[sem] theorem cmpRel_eval (k : CountKind) (a b : Term) (ρ : Env) : (cmpRel k a b).eval ρ ↔ cmpHolds k (a.eval ρ) (b.eval ρ) := by
  cases k <;> simp [cmpRel, cmpHolds, Fml.eval]

/-- gaps between consecutive busy intervals (sorted starts against sorted ends) -/
def GapsOK (ρ : Env) (busy : List BusyRef) (P : Int → Int → Prop) : Prop :=
  (busy.map (fun b => b.sV ρ)).Nodup ∧ (busy.map (fun b => b.eV ρ)).Nodup ∧
  ∀ i, i + 1 < busy.length →
    P ((sortInts (busy.map (fun b => b.eV ρ))).getD i 0) ((sortInts (busy.map (fun b => b.sV ρ))).getD (i + 1) 0)

/-- when ResourceTasksDistance constrains a gap: both instants inside one of the listed intervals, or (no interval
    given) both instants non-negative -/
def DistCond (ivs : Option (List (Int × Int))) (e s : Int) : Prop :=
  match ivs with
  | some l => ∃ iv ∈ l, iv.1 ≤ s ∧ iv.1 ≤ e ∧ s ≤ iv.2 ∧ e ≤ iv.2
  | none => 0 ≤ e ∧ 0 ≤ s

@[sem] theorem distConds_evalAny (ivs : Option (List (Int × Int))) (e s : Term) (ρ : Env) :
    Fml.evalAny ρ (distConds ivs e s) ↔ DistCond ivs (e.eval ρ) (s.eval ρ) := by
  cases ivs <;> simp only [distConds, DistCond, sem]

def overlapSum (s e : Int) (ivs : List (Int × Int)) : Int := (ivs.map (fun iv => overlapLen s e iv.1 iv.2)).sum

/-- ResourceInterrupted, for one busy interval `[s, e]` of task `t`: a fixed-duration (or zero-duration) task overlaps
    no window; a variable-duration task neither starts nor ends strictly inside a window and its duration is at least
    its minimum plus the time spent inside the windows (and, the busy interval being a real interval, at most its
    maximum plus that time) -/
def InterruptedOK (ρ : Env) (s e : Int) (t : Task) (ivs : List (Int × Int)) : Prop :=
  match t.kind with
  | .var minD maxD _ =>
      (∀ iv ∈ ivs, (s ≤ iv.1 ∨ iv.2 ≤ s) ∧ (e ≤ iv.1 ∨ iv.2 ≤ e)) ∧
      minD + overlapSum s e ivs ≤ ρ.i (.tDur t.name) ∧
      (s ≤ e → ∀ m, maxD = some m → ρ.i (.tDur t.name) ≤ m + overlapSum s e ivs)
  | _ => ∀ iv ∈ ivs, iv.2 ≤ s ∨ e ≤ iv.1

/-- the busy interval is exempt: the repetition is not active where it lies -/
def PeriodicMasked (ρ : Env) (b : BusyRef) (start : Int) (end_ : Option Int) : Prop :=
  (0 ≤ start ∧ b.eV ρ ≤ start) ∨ (∃ en, end_ = some en ∧ en ≤ b.sV ρ)

/-- time added by the repetitions of the listed windows that lie inside `[s, e]` -/
def periodicOverlapSum (s e : Int) (ivs : List (Int × Int)) (off p : Int) : Int :=
  (ivs.map (fun iv => (iv.2 - iv.1) * repsInside s e iv.1 iv.2 off p)).sum

/-- ResourcePeriodicallyInterrupted, for one busy interval `[s, e]` of task `t` inside the activity window: a
    fixed-duration task does not overlap the repetition of a window in the period it starts in (that it may run into
    the next one is F39); a variable-duration task neither starts nor ends strictly inside any repetition of any window
    — so every repetition is disjoint from, or wholly inside, `[s, e]` — and its duration is at least its minimum (at
    most its maximum) plus the total length of the repetitions inside -/
def PeriodicInterruptedOK (ρ : Env) (s e : Int) (t : Task) (ivs : List (Int × Int)) (p off : Int) : Prop :=
  match t.kind with
  | .var minD maxD _ =>
      (∀ iv ∈ ivs, ∀ k : Int, (s ≤ iv.1 + off + p * k ∨ iv.2 + off + p * k ≤ s) ∧
                              (e ≤ iv.1 + off + p * k ∨ iv.2 + off + p * k ≤ e)) ∧
      (s ≤ e → minD + periodicOverlapSum s e ivs off p ≤ ρ.i (.tDur t.name) ∧
               ∀ m, maxD = some m → ρ.i (.tDur t.name) ≤ m + periodicOverlapSum s e ivs off p)
  | _ => ∀ iv ∈ ivs, iv.2 + off + p * ((s - off) / p) ≤ s ∨ e ≤ iv.1 + off + p * ((s - off) / p)

/-- the documented meaning of each resource-constraint class -/
def ResMeaning (ρ : Env) : CBody → Prop
  | .unavailable busy ivs => ∀ b ∈ busy, ∀ iv ∈ ivs, iv.2 ≤ b.sV ρ ∨ b.eV ρ ≤ iv.1
  | .workload busy ivs kind => ∀ iv ∈ ivs, cmpHolds kind (busyInside ρ busy iv.1.1 iv.1.2) iv.2
  | .nonDelay busy => GapsOK ρ busy (fun e s => 0 ≤ e → 0 ≤ s → s = e)
  | .distance busy d ivs mode => GapsOK ρ busy (fun e s => DistCond ivs e s → cmpHolds mode (s - e) d)
  | .interrupted ws ivs => (∀ iv ∈ ivs, iv.1 < iv.2) →
      ∀ w ∈ ws, ∀ bt ∈ w, InterruptedOK ρ (bt.1.sV ρ) (bt.1.eV ρ) bt.2 ivs
  | .periodicallyInterrupted busy ivs period start offset end_ =>
      0 < period → (∀ iv ∈ ivs, 0 ≤ iv.1 ∧ iv.1 < iv.2 ∧ iv.2 ≤ period) →
      ∀ bt ∈ busy, ¬ PeriodicMasked ρ bt.1 start end_ →
        PeriodicInterruptedOK ρ (bt.1.sV ρ) (bt.1.eV ρ) bt.2 ivs period offset
  | .sameWorkers s1 s2 => ∀ w ∈ s1.workers, w ∈ s2.workers → (ρ.b (.sel s1.id w) = ρ.b (.sel s2.id w))
  | .distinctWorkers s1 s2 => ∀ w ∈ s1.workers, w ∈ s2.workers → ¬ (ρ.b (.sel s1.id w) = true ∧ ρ.b (.sel s2.id w) = true)
  | _ => True

theorem workloadOne_sound (d : Term) (b : BusyRef) (lo hi : Int) (ρ : Env) (h : Sat ρ (workloadOne d b lo hi)) :
    d.eval ρ = overlapLen (b.sV ρ) (b.eV ρ) lo hi := by
  simp only [workloadOne, overlapLen, sem] at h ⊢
  obtain ⟨h0, h1, h2, h3, h4, h5⟩ := h
  generalize ρ.i (.busyS b.worker b.task b.maybe) = s at *
  generalize ρ.i (.busyE b.worker b.task b.maybe) = e at *
  generalize d.eval ρ = dv at *
  -- by the cases of the encoding: `omega` is slow on the six implications taken together
  by_cases c1 : lo ≤ s ∧ e ≤ hi
  · have := h1 c1; omega
  by_cases c4 : s < lo ∧ hi < e
  · -- a busy interval strictly containing the window: the second and the fourth case both apply and disagree (F5)
    have := h4 c4; have := h2 ⟨c4.1, by omega⟩; omega
  by_cases c2 : s < lo ∧ lo < e
  · have := h2 c2; omega
  by_cases c3 : s < hi ∧ hi < e
  · have := h3 c3; omega
  have := h5 (by simp only [c1, c2, c3, c4, or_self, not_false_iff]); omega

theorem workloadBusy_sound (c : Nat) (lo hi : Int) (ρ : Env) :
    ∀ (busy : List BusyRef) (k : Nat), Sat ρ (workloadBusy c lo hi k busy).1 →
      Term.evalSum ρ (workloadBusy c lo hi k busy).2 = busyInside ρ busy lo hi
  | [], _, _ => rfl
  | b :: bs, k, h => by
      simp only [workloadBusy, Sat.append] at h
      simp only [workloadBusy, Term.evalSum, busyInside, List.map_cons, List.sum_cons]
      rw [workloadOne_sound _ b lo hi ρ h.1, workloadBusy_sound c lo hi ρ bs (k + 1) h.2, busyInside]

theorem workloadAll_sound (c : Nat) (busy : List BusyRef) (kind : CountKind) (ρ : Env) :
    ∀ (ivs : List ((Int × Int) × Int)) (k0 : Nat), Sat ρ (workloadAll c busy kind k0 ivs) →
      ∀ iv ∈ ivs, cmpHolds kind (busyInside ρ busy iv.1.1 iv.1.2) iv.2
  | iv0 :: rest, k0, h, iv, hiv => by
      simp only [workloadAll, workloadInterval, sem] at h
      rcases List.mem_cons.1 hiv with rfl | hr
      · rw [← workloadBusy_sound c _ _ ρ busy k0 h.1.1]; exact h.1.2
      · exact workloadAll_sound c busy kind ρ rest _ h.2 iv hr

/-- Every statement about an interruption class splits on whether the task has variable duration; an implication
    between two of them is proved branch by branch. -/
theorem TaskKind.match_imp {k : TaskKind} {V V' : Int → Option Int → Prop} {F F' : Prop}
    (hV : ∀ minD maxD, V minD maxD → V' minD maxD) (hF : F → F') :
    (match k with | .var minD maxD _ => V minD maxD | _ => F) →
    match k with | .var minD maxD _ => V' minD maxD | _ => F' := by
  cases k <;> first | exact hF | exact hV _ _

/-- what both interruption classes assert of a task of variable duration (`xs`, `xe`: the end points of the busy
    interval, folded into the period or not; `overlaps`: one term per window) -/
def interruptVarF (t : Task) (minD : Int) (maxD : Option Int) (xs xe : Term) (ivs : List (Int × Int))
    (overlaps : List Term) : List Fml :=
  ivs.flatMap (fun iv => [Fml.xor (.le xs (numT iv.1)) (.ge xs (numT iv.2)),
                          Fml.xor (.le xe (numT iv.1)) (.ge xe (numT iv.2))]) ++
  [Fml.ge t.dVar (.add (numT minD) (.sum overlaps))] ++
  (match maxD with | some m => [Fml.le t.dVar (.add (numT m) (.sum overlaps))] | none => [])

theorem interruptVarF_sat (t : Task) (minD : Int) (maxD : Option Int) (xs xe : Term) (ivs : List (Int × Int))
    (overlaps : List Term) (ρ : Env) (hwf : ∀ iv ∈ ivs, iv.1 < iv.2) :
    Sat ρ (interruptVarF t minD maxD xs xe ivs overlaps) ↔
      (∀ iv ∈ ivs, (xs.eval ρ ≤ iv.1 ∨ iv.2 ≤ xs.eval ρ) ∧ (xe.eval ρ ≤ iv.1 ∨ iv.2 ≤ xe.eval ρ)) ∧
      minD + Term.evalSum ρ overlaps ≤ ρ.i (.tDur t.name) ∧
      ∀ m, maxD = some m → ρ.i (.tDur t.name) ≤ m + Term.evalSum ρ overlaps := by
  unfold interruptVarF
  rw [List.append_assoc, Sat.append]
  refine and_congr ?_ (by cases maxD <;> simp [sem])
  simp only [sem]
  exact forall₂_congr fun iv hiv => by have := hwf iv hiv; omega

/-- one element of `overlaps` in `interruptedOne`: the whole length of the window unless the busy interval lies on one
    side of it -/
def interruptedTerm (b : BusyRef) (iv : Int × Int) : Term :=
  .ite (.not (.xor (.ge b.s (numT iv.2)) (.le b.e (numT iv.1)))) (numT (iv.2 - iv.1)) (numT 0)

theorem interruptedTerm_eval (ρ : Env) (b : BusyRef) (iv : Int × Int) :
    (interruptedTerm b iv).eval ρ = if (iv.2 ≤ b.sV ρ ↔ b.eV ρ ≤ iv.1) then iv.2 - iv.1 else 0 :=
  Term.eval_ite_of_iff (by simp only [sem, not_not]) _ _

/-- with neither end point strictly inside the window, the value of `interruptedTerm` bounds the time spent inside it,
    and is that time when `s ≤ e` -/
theorem overlapLen_le_flag (s e lo hi : Int) (hlt : lo < hi) (hs : s ≤ lo ∨ hi ≤ s) (he : e ≤ lo ∨ hi ≤ e) :
    overlapLen s e lo hi ≤ (if (hi ≤ s ↔ e ≤ lo) then hi - lo else 0) ∧
    (s ≤ e → (if (hi ≤ s ↔ e ≤ lo) then hi - lo else 0) = overlapLen s e lo hi) := by
  unfold overlapLen
  split <;> omega

theorem interrupted_sum (ρ : Env) (b : BusyRef) (ivs : List (Int × Int)) (hwf : ∀ iv ∈ ivs, iv.1 < iv.2)
    (hend : ∀ iv ∈ ivs, (b.sV ρ ≤ iv.1 ∨ iv.2 ≤ b.sV ρ) ∧ (b.eV ρ ≤ iv.1 ∨ iv.2 ≤ b.eV ρ)) :
    overlapSum (b.sV ρ) (b.eV ρ) ivs ≤ Term.evalSum ρ (ivs.map (interruptedTerm b)) ∧
    (b.sV ρ ≤ b.eV ρ → Term.evalSum ρ (ivs.map (interruptedTerm b)) = overlapSum (b.sV ρ) (b.eV ρ) ivs) := by
  have ht := fun iv hiv => overlapLen_le_flag (b.sV ρ) (b.eV ρ) iv.1 iv.2 (hwf iv hiv) (hend iv hiv).1 (hend iv hiv).2
  simp only [evalSum_map, interruptedTerm_eval, overlapSum]
  exact ⟨sum_map_le_sum_map _ _ _ fun iv hiv => (ht iv hiv).1,
    fun hle => congrArg _ (List.map_congr_left fun iv hiv => (ht iv hiv).2 hle)⟩

theorem interruptedOne_eq (b : BusyRef) (t : Task) (ivs : List (Int × Int)) :
    interruptedOne b t ivs =
      match t.kind with
      | .var minD maxD _ => interruptVarF t minD maxD b.s b.e ivs (ivs.map (interruptedTerm b))
      | _ => ivs.map (fun iv => Fml.xor (.ge b.s (numT iv.2)) (.le b.e (numT iv.1))) := rfl

theorem interruptedOne_sat (b : BusyRef) (t : Task) (ivs : List (Int × Int)) (ρ : Env) (hwf : ∀ iv ∈ ivs, iv.1 < iv.2) :
    Sat ρ (interruptedOne b t ivs) ↔
      match t.kind with
      | .var minD maxD _ =>
          (∀ iv ∈ ivs, (b.sV ρ ≤ iv.1 ∨ iv.2 ≤ b.sV ρ) ∧ (b.eV ρ ≤ iv.1 ∨ iv.2 ≤ b.eV ρ)) ∧
          minD + Term.evalSum ρ (ivs.map (interruptedTerm b)) ≤ ρ.i (.tDur t.name) ∧
          ∀ m, maxD = some m → ρ.i (.tDur t.name) ≤ m + Term.evalSum ρ (ivs.map (interruptedTerm b))
      | _ => ∀ iv ∈ ivs, ¬ (iv.2 ≤ b.sV ρ ↔ b.eV ρ ≤ iv.1) := by
  rw [interruptedOne_eq]
  cases t.kind with
  | var minD maxD al => exact interruptVarF_sat t minD maxD _ _ ivs _ ρ hwf
  | fixed d | zero => simp only [sem]

theorem interruptedOne_sound (b : BusyRef) (t : Task) (ivs : List (Int × Int)) (ρ : Env)
    (hwf : ∀ iv ∈ ivs, iv.1 < iv.2) (h : Sat ρ (interruptedOne b t ivs)) :
    InterruptedOK ρ (b.sV ρ) (b.eV ρ) t ivs := by
  refine TaskKind.match_imp (fun minD maxD ⟨hends, hmin, hmax⟩ => ?_) (fun h iv hiv => by have := h iv hiv; omega)
    ((interruptedOne_sat b t ivs ρ hwf).1 h)
  have hsum := interrupted_sum ρ b ivs hwf hends
  exact ⟨hends, Int.le_trans (Int.add_le_add_left hsum.1 _) hmin, fun hle m hm => hsum.2 hle ▸ hmax m hm⟩

/-- the exact requirement of ResourceInterrupted on one busy interval (both duration bounds) -/
def InterruptedExact (ρ : Env) (s e : Int) (t : Task) (ivs : List (Int × Int)) : Prop :=
  match t.kind with
  | .var minD maxD _ =>
      (∀ iv ∈ ivs, (s ≤ iv.1 ∨ iv.2 ≤ s) ∧ (e ≤ iv.1 ∨ iv.2 ≤ e)) ∧
      minD + overlapSum s e ivs ≤ ρ.i (.tDur t.name) ∧
      (∀ m, maxD = some m → ρ.i (.tDur t.name) ≤ m + overlapSum s e ivs)
  | _ => ∀ iv ∈ ivs, iv.2 ≤ s ∨ e ≤ iv.1

theorem InterruptedOK.exact {ρ : Env} {s e : Int} {t : Task} {ivs : List (Int × Int)} (h : InterruptedOK ρ s e t ivs)
    (hse : s ≤ e) : InterruptedExact ρ s e t ivs :=
  TaskKind.match_imp (fun _ _ h => ⟨h.1, h.2.1, h.2.2 hse⟩) id h

theorem interruptedOne_complete (b : BusyRef) (t : Task) (ivs : List (Int × Int)) (ρ : Env)
    (hwf : ∀ iv ∈ ivs, iv.1 < iv.2) (hse : b.sV ρ ≤ b.eV ρ)
    (h : InterruptedExact ρ (b.sV ρ) (b.eV ρ) t ivs) : Sat ρ (interruptedOne b t ivs) := by
  refine (interruptedOne_sat b t ivs ρ hwf).2 (TaskKind.match_imp (fun minD maxD ⟨hends, hmin, hmax⟩ => ?_)
    (fun h iv hiv => by have := hwf iv hiv; have := h iv hiv; omega) h)
  have hsum := (interrupted_sum ρ b ivs hwf hends).2 hse
  exact ⟨hends, hsum ▸ hmin, fun m hm => hsum ▸ hmax m hm⟩

@[sem] theorem periodicMasks_evalAny (ρ : Env) (b : BusyRef) (start : Int) (end_ : Option Int) :
    Fml.evalAny ρ (periodicMasks b start end_) ↔ PeriodicMasked ρ b start end_ := by
  unfold periodicMasks PeriodicMasked
  by_cases h0 : start ≥ 0 <;> cases end_ <;> simp [h0, sem]

theorem orMasks_eval (ρ : Env) (b : BusyRef) (start : Int) (end_ : Option Int) (core : Fml) :
    (if (periodicMasks b start end_).length > 0 then Fml.or (core :: periodicMasks b start end_) else core).eval ρ ↔
      (PeriodicMasked ρ b start end_ ∨ core.eval ρ) := by
  rw [← periodicMasks_evalAny]
  split
  · simp only [Fml.eval, Fml.evalAny, or_comm]
  · rename_i h
    rw [List.length_eq_zero_iff.1 (Nat.le_zero.1 (Nat.not_lt.1 h))]; simp only [Fml.evalAny, false_or]

/-- the folded test: disjoint from the repetition of the window in the period the interval starts in -/
theorem periodicCore_sound (b : BusyRef) (iv : Int × Int) (p off : Int) (ρ : Env) (h : (periodicCore b iv p off).eval ρ) :
    iv.2 + off + p * ((b.sV ρ - off) / p) ≤ b.sV ρ ∨ b.eV ρ ≤ iv.1 + off + p * ((b.sV ρ - off) / p) := by
  have hdecomp := Int.emod_add_mul_ediv (b.sV ρ - off) p
  simp only [periodicCore, sem] at h hdecomp ⊢
  omega

theorem periodicCore_complete (b : BusyRef) (iv : Int × Int) (p off : Int) (ρ : Env) (hlt : iv.1 < iv.2)
    (hse : b.sV ρ ≤ b.eV ρ)
    (h : iv.2 + off + p * ((b.sV ρ - off) / p) ≤ b.sV ρ ∨ b.eV ρ ≤ iv.1 + off + p * ((b.sV ρ - off) / p)) :
    (periodicCore b iv p off).eval ρ := by
  have hdecomp := Int.emod_add_mul_ediv (b.sV ρ - off) p
  simp only [periodicCore, sem] at h hse hdecomp ⊢
  omega

@[sem] theorem periodicOne_eval (b : BusyRef) (iv : Int × Int) (p start off : Int) (end_ : Option Int) (ρ : Env) :
    (periodicOne b iv p start off end_).eval ρ ↔ PeriodicMasked ρ b start end_ ∨ (periodicCore b iv p off).eval ρ :=
  orMasks_eval ..

theorem periodicOne_complete (b : BusyRef) (iv : Int × Int) (p start off : Int) (end_ : Option Int) (ρ : Env)
    (hlt : iv.1 < iv.2) (hse : b.sV ρ ≤ b.eV ρ)
    (h : PeriodicMasked ρ b start end_ ∨
      (iv.2 + off + p * ((b.sV ρ - off) / p) ≤ b.sV ρ ∨ b.eV ρ ≤ iv.1 + off + p * ((b.sV ρ - off) / p))) :
    (periodicOne b iv p start off end_).eval ρ :=
  (periodicOne_eval ..).2 (h.imp_right (periodicCore_complete b iv p off ρ hlt hse))

/-- `crossing iv` in `periodicInterruptedOne` -/
def pCrossing (b : BusyRef) (iv : Int × Int) (period offset : Int) : Fml :=
  let fs := Term.mod (.sub b.s (numT offset)) (numT period)
  let dur := Term.sub b.e b.s
  .not (.xor (.and [.le fs (numT iv.1), .le (.add fs (.mod dur (numT period))) (numT iv.1)])
             (.and [.ge fs (numT iv.2), .le (.add fs (.mod dur (numT period))) (numT (iv.1 + period))]))

/-- one element of `overlaps` in `periodicInterruptedOne` -/
def pOverlapTerm (b : BusyRef) (iv : Int × Int) (period offset : Int) : Term :=
  let dur := Term.sub b.e b.s
  Term.ite (.or [pCrossing b iv period offset, .gt dur (numT (iv.1 + period - iv.2))])
    (.mul (numT (iv.2 - iv.1))
      (.ite (pCrossing b iv period offset) (.add (.div dur (numT period)) (numT 1)) (.div dur (numT period))))
    (numT 0)

open Classical in
theorem pOverlapTerm_eval (ρ : Env) (b : BusyRef) (iv : Int × Int) (p off : Int) (hp : 0 < p)
    (hwf : 0 ≤ iv.1 ∧ iv.1 < iv.2 ∧ iv.2 ≤ p) (hse : b.sV ρ ≤ b.eV ρ)
    (hs : (b.sV ρ - off) % p ≤ iv.1 ∨ iv.2 ≤ (b.sV ρ - off) % p)
    (he : (b.eV ρ - off) % p ≤ iv.1 ∨ iv.2 ≤ (b.eV ρ - off) % p) :
    (pOverlapTerm b iv p off).eval ρ = (iv.2 - iv.1) * repsInside (b.sV ρ) (b.eV ρ) iv.1 iv.2 off p := by
  have := periodic_overlap_closed_form (b.sV ρ) (b.eV ρ) iv.1 iv.2 off p hp hwf.1 hwf.2.1 hwf.2.2 hse hs he
    ((pCrossing b iv p off).eval ρ) (by simp only [pCrossing, sem, not_not])
  rw [← this]
  simp only [pOverlapTerm, sem]
  congr   -- the two sides differ in their `Decidable` instances only

theorem pOverlap_sum (ρ : Env) (b : BusyRef) (p off : Int) (hp : 0 < p) (hse : b.sV ρ ≤ b.eV ρ)
    (ivs : List (Int × Int)) (hwf : ∀ iv ∈ ivs, 0 ≤ iv.1 ∧ iv.1 < iv.2 ∧ iv.2 ≤ p)
    (hend : ∀ iv ∈ ivs, ((b.sV ρ - off) % p ≤ iv.1 ∨ iv.2 ≤ (b.sV ρ - off) % p) ∧
                        ((b.eV ρ - off) % p ≤ iv.1 ∨ iv.2 ≤ (b.eV ρ - off) % p)) :
    Term.evalSum ρ (ivs.map (fun iv => pOverlapTerm b iv p off)) = periodicOverlapSum (b.sV ρ) (b.eV ρ) ivs off p := by
  rw [evalSum_map, periodicOverlapSum]
  exact congrArg _ (List.map_congr_left fun iv hiv =>
    pOverlapTerm_eval ρ b iv p off hp (hwf iv hiv) hse (hend iv hiv).1 (hend iv hiv).2)

theorem periodicInterruptedOne_eq (b : BusyRef) (t : Task) (ivs : List (Int × Int)) (p off : Int) :
    periodicInterruptedOne b t ivs p off =
      match t.kind with
      | .var minD maxD _ =>
          interruptVarF t minD maxD (.mod (.sub b.s (numT off)) (numT p)) (.mod (.sub b.e (numT off)) (numT p)) ivs
            (ivs.map (fun iv => pOverlapTerm b iv p off))
      | _ => ivs.map (fun iv => periodicCore b iv p off) := rfl

@[sem] theorem periodicInterruptedFml_eval (bt : BusyRef × Task) (ivs : List (Int × Int)) (p start off : Int)
    (end_ : Option Int) (ρ : Env) :
    (periodicInterruptedFml bt ivs p start off end_).eval ρ ↔
      PeriodicMasked ρ bt.1 start end_ ∨ Sat ρ (periodicInterruptedOne bt.1 bt.2 ivs p off) :=
  (orMasks_eval ..).trans (or_congr_right (evalAll_eq_Sat ..))

theorem periodicInterruptedOne_sat (b : BusyRef) (t : Task) (ivs : List (Int × Int)) (p off : Int) (ρ : Env)
    (hwf : ∀ iv ∈ ivs, iv.1 < iv.2) :
    Sat ρ (periodicInterruptedOne b t ivs p off) ↔
      match t.kind with
      | .var minD maxD _ =>
          (∀ iv ∈ ivs, ((b.sV ρ - off) % p ≤ iv.1 ∨ iv.2 ≤ (b.sV ρ - off) % p) ∧
                       ((b.eV ρ - off) % p ≤ iv.1 ∨ iv.2 ≤ (b.eV ρ - off) % p)) ∧
          minD + Term.evalSum ρ (ivs.map (fun iv => pOverlapTerm b iv p off)) ≤ ρ.i (.tDur t.name) ∧
          ∀ m, maxD = some m → ρ.i (.tDur t.name) ≤ m + Term.evalSum ρ (ivs.map (fun iv => pOverlapTerm b iv p off))
      | _ => ∀ iv ∈ ivs, (periodicCore b iv p off).eval ρ := by
  rw [periodicInterruptedOne_eq]
  cases t.kind with
  | var minD maxD al => exact interruptVarF_sat t minD maxD _ _ ivs _ ρ hwf
  | fixed d | zero => exact Sat_map

theorem periodicInterruptedOne_sound (b : BusyRef) (t : Task) (ivs : List (Int × Int)) (p off : Int) (ρ : Env)
    (hp : 0 < p) (hwf : ∀ iv ∈ ivs, 0 ≤ iv.1 ∧ iv.1 < iv.2 ∧ iv.2 ≤ p)
    (h : Sat ρ (periodicInterruptedOne b t ivs p off)) :
    PeriodicInterruptedOK ρ (b.sV ρ) (b.eV ρ) t ivs p off := by
  refine TaskKind.match_imp (fun minD maxD ⟨hends, hmin, hmax⟩ => ⟨fun iv hiv k => ?_, fun hse => ?_⟩)
    (fun h iv hiv => periodicCore_sound b iv p off ρ (h iv hiv))
    ((periodicInterruptedOne_sat b t ivs p off ρ fun iv hiv => (hwf iv hiv).2.1).1 h)
  · have hw := hwf iv hiv
    exact ⟨folded_not_inside _ off p iv.1 iv.2 hp hw.1 hw.2.2 (hends iv hiv).1 k,
           folded_not_inside _ off p iv.1 iv.2 hp hw.1 hw.2.2 (hends iv hiv).2 k⟩
  · have hsum := pOverlap_sum ρ b p off hp hse ivs hwf hends
    exact ⟨hsum ▸ hmin, fun m hm => hsum ▸ hmax m hm⟩

/-- the exact requirement of ResourcePeriodicallyInterrupted on one busy interval inside the activity window -/
def PeriodicInterruptedExact (ρ : Env) (s e : Int) (t : Task) (ivs : List (Int × Int)) (p off : Int) : Prop :=
  match t.kind with
  | .var minD maxD _ =>
      (∀ iv ∈ ivs, ∀ k : Int, (s ≤ iv.1 + off + p * k ∨ iv.2 + off + p * k ≤ s) ∧
                              (e ≤ iv.1 + off + p * k ∨ iv.2 + off + p * k ≤ e)) ∧
      minD + periodicOverlapSum s e ivs off p ≤ ρ.i (.tDur t.name) ∧
      (∀ m, maxD = some m → ρ.i (.tDur t.name) ≤ m + periodicOverlapSum s e ivs off p)
  | _ => ∀ iv ∈ ivs, iv.2 + off + p * ((s - off) / p) ≤ s ∨ e ≤ iv.1 + off + p * ((s - off) / p)

theorem PeriodicInterruptedOK.exact {ρ : Env} {s e : Int} {t : Task} {ivs : List (Int × Int)} {p off : Int}
    (h : PeriodicInterruptedOK ρ s e t ivs p off) (hse : s ≤ e) : PeriodicInterruptedExact ρ s e t ivs p off :=
  TaskKind.match_imp (fun _ _ h => ⟨h.1, (h.2 hse).1, (h.2 hse).2⟩) id h

theorem periodicInterruptedOne_complete (b : BusyRef) (t : Task) (ivs : List (Int × Int)) (p off : Int) (ρ : Env)
    (hp : 0 < p) (hwf : ∀ iv ∈ ivs, 0 ≤ iv.1 ∧ iv.1 < iv.2 ∧ iv.2 ≤ p) (hse : b.sV ρ ≤ b.eV ρ)
    (h : PeriodicInterruptedExact ρ (b.sV ρ) (b.eV ρ) t ivs p off) :
    Sat ρ (periodicInterruptedOne b t ivs p off) := by
  refine (periodicInterruptedOne_sat b t ivs p off ρ fun iv hiv => (hwf iv hiv).2.1).2
    (TaskKind.match_imp (fun minD maxD ⟨hins, hmin, hmax⟩ => ?_)
      (fun h iv hiv => periodicCore_complete b iv p off ρ (hwf iv hiv).2.1 hse (h iv hiv)) h)
  have hends : ∀ iv ∈ ivs, ((b.sV ρ - off) % p ≤ iv.1 ∨ iv.2 ≤ (b.sV ρ - off) % p) ∧
               ((b.eV ρ - off) % p ≤ iv.1 ∨ iv.2 ≤ (b.eV ρ - off) % p) := fun iv hiv =>
    ⟨folded_of_not_inside _ off p iv.1 iv.2 (hins iv hiv _).1, folded_of_not_inside _ off p iv.1 iv.2 (hins iv hiv _).2⟩
  have hsum := pOverlap_sum ρ b p off hp hse ivs hwf hends
  exact ⟨hends, hsum ▸ hmin, fun m hm => hsum ▸ hmax m hm⟩

/-- **C04 (per class).** The raw assertions of a resource constraint imply its documented meaning. -/
theorem C04_raw_sound (c : Nat) (b : CBody) (ρ : Env) (h : Sat ρ (b.raw c)) : ResMeaning ρ b := by
  cases b <;> try exact trivial
  case unavailable busy ivs =>
    simp only [ResMeaning, CBody.raw, sem] at h ⊢
    exact fun br hbr iv hiv => h iv hiv br hbr
  case workload busy ivs kind => exact workloadAll_sound c busy kind ρ ivs 0 h
  case nonDelay busy =>
    exact gaps_sound_on busy (·.s) (·.e) _ _ ρ _ (fun e s => 0 ≤ e → 0 ≤ s → s = e)
      (fun e s hev he hs => by
        simp only [sem] at hev
        exact hev ⟨he, hs⟩) h
  case distance busy d ivs mode =>
    exact gaps_sound_on busy (·.s) (·.e) _ _ ρ (distanceGap d ivs mode)
      (fun e s => DistCond ivs e s → cmpHolds mode (s - e) d)
      (fun e s hev => by simpa only [distanceGap, sem] using hev) h
  case interrupted ws ivs =>
    simp only [CBody.raw, sem] at h
    exact fun hwf w hw bt hbt => interruptedOne_sound bt.1 bt.2 ivs ρ hwf (h w hw bt hbt)
  case periodicallyInterrupted busy ivs period start offset end_ =>
    simp only [CBody.raw, sem] at h
    exact fun hp hwf bt hbt hmask =>
      periodicInterruptedOne_sound bt.1 bt.2 ivs period offset ρ hp hwf ((h bt hbt).resolve_left hmask)
  case sameWorkers s1 s2 =>
    simp only [CBody.raw, sem, List.mem_filter] at h
    exact fun w hw1 hw2 => Bool.eq_iff_iff.2 (h w ⟨hw1, List.contains_iff_mem.2 hw2⟩)
  case distinctWorkers s1 s2 =>
    simp only [CBody.raw, sem, List.mem_filter] at h
    exact fun w hw1 hw2 ⟨ha, hb⟩ => h w ⟨hw1, List.contains_iff_mem.2 hw2⟩ ⟨fun _ => hb, fun _ => ha⟩

/-- **C04.** Every mandatory resource constraint of the problem holds, with its documented meaning over the busy
    intervals it was declared on, in every admitted interpretation (`ResMeaning` says `True` of a class it has no arm for:
    ResourcePeriodicallyUnavailable is `C04_periodic_enforced`). -/
theorem C04_resource_constraints (cfg : Config) (st : State) (ρ : Env) (hρ : Sat ρ (initFmls cfg st)) :
    ∀ c, Enforced st c → ResMeaning ρ c.body :=
  fun c he => C04_raw_sound c.id _ ρ (he.sat_raw hρ)

/-- **C04 (ResourcePeriodicallyUnavailable, own period).**  With `k = (s − offset) div period` the period a busy
    interval `[s, e]` of the resource starts in: unless masked by `start` / `end`, the interval does not overlap the
    `k`-th repetition of any listed window.  (That it may run into the repetition of the *next* period is F13.) -/
theorem C04_periodic_own_period (c : Nat) (busy : List BusyRef) (ivs : List (Int × Int))
    (period start offset : Int) (end_ : Option Int) (ρ : Env)
    (h : Sat ρ ((CBody.periodicallyUnavailable busy ivs period start offset end_).raw c)) :
    ∀ b ∈ busy, ∀ iv ∈ ivs, ¬ PeriodicMasked ρ b start end_ →
      let k := (b.sV ρ - offset) / period
      iv.2 + offset + period * k ≤ b.sV ρ ∨ b.eV ρ ≤ iv.1 + offset + period * k := by
  simp only [CBody.raw, sem] at h
  exact fun b hb iv hiv hmask => periodicCore_sound b iv period offset ρ ((h iv hiv b hb).resolve_left hmask)

theorem C04_periodic_enforced (cfg : Config) (st : State) (ρ : Env) (hρ : Sat ρ (initFmls cfg st))
    (cst : Constr) (he : Enforced st cst) (busy : List BusyRef) (ivs : List (Int × Int))
    (period start offset : Int) (end_ : Option Int)
    (hb : cst.body = .periodicallyUnavailable busy ivs period start offset end_) :
    ∀ b ∈ busy, ∀ iv ∈ ivs, ¬ PeriodicMasked ρ b start end_ →
      iv.2 + offset + period * ((b.sV ρ - offset) / period) ≤ b.sV ρ ∨
      b.eV ρ ≤ iv.1 + offset + period * ((b.sV ρ - offset) / period) :=
  C04_periodic_own_period cst.id busy ivs period start offset end_ ρ (hb ▸ he.sat_raw hρ)

/-- starts and ends of the busy intervals are ordered alike (true of the disjoint busy intervals of one worker) -/
def Comonotone (ρ : Env) (busy : List BusyRef) : Prop :=
  ∀ x ∈ busy, ∀ y ∈ busy, x.sV ρ < y.sV ρ → x.eV ρ < y.eV ρ

/-- **C04 (ResourceNonDelay / ResourceTasksDistance, pairwise).**  Whenever the busy intervals are ordered alike by
    start and by end, the relation the constraint asks of "the i-th sorted end and the (i+1)-th sorted start" holds
    between every busy interval and its immediate successor by start. -/
theorem GapsOK_pairwise (ρ : Env) (busy : List BusyRef) (P : Int → Int → Prop) (h : GapsOK ρ busy P)
    (hco : Comonotone ρ busy) :
    ∀ a ∈ busy, ∀ b ∈ busy, a.sV ρ < b.sV ρ →
      (∀ c ∈ busy, ¬ (a.sV ρ < c.sV ρ ∧ c.sV ρ < b.sV ρ)) → P (a.eV ρ) (b.sV ρ) :=
  fun a ha b hb => gaps_pairwise_on busy (·.sV ρ) (·.eV ρ) P h.1 h.2.1 hco h.2.2 a b ha hb

end PS
