/-
  C05 — No valid schedule is lost: infeasibility verdicts are truthful.

  Completeness of the encoding: for a user-level schedule σ (`PS/Spec/Schedule.lean`) that satisfies the documented
  meaning of every element (`Valid`), the witness interpretation `envOf st σ` satisfies every assertion `initialize`
  makes (`C05_complete_core`).  So a consistent oracle (`ConsistentAns`, i.e. z3's own completeness) cannot answer
  `unsat`, and pinning σ's values keeps the system satisfiable (`envOf st σ` satisfies the pins by construction).  The
  converse and the exactness theorems that follow from the two halves are in `Exact.lean`.

  Proved for the **core fragment** (`InCore`): tasks of the three classes, mandatory or optional; workers, selections
  (hence cumulative workers), static / delayed / dynamic requirements; work amounts; the one- and two-task
  constraints, the optional-task rules, resource unavailability, the three interruption classes, same workers;
  indicators defined by one equation and the constraints on them; the six connectives and optional constraints over
  anything; a declared or free horizon; at most one objective.  `InCore` / `CoreMeaning` name exactly the usages
  excluded, each a recorded finding with a witness: TasksDontOverlap on two zero-length tasks at one instant (xor,
  F36); DistinctWorkers (F6).  Task groups are added by `Groups.lean`; the other elements with auxiliary variables
  (contiguity, distance, non-delay, ScheduleN, WorkLoad, buffers) are covered by the exact ENC correspondence and the
  completeness search of the check, not by a theorem.
-/
import PS.Theorems.C03
import PS.Theorems.C04
import PS.Theorems.C01
import PS.Theorems.C02
import PS.Theorems.C07
import PS.Spec.Schedule
import PS.Proofs.Congr
import PS.Proofs.EvalB
namespace PS

/-- task names identify tasks -/
def NamesOK (st : State) : Prop := ∀ t ∈ st.tasks, st.findTask t.name = some t

def Sched.durOfTask (σ : Sched) (t : Task) : Int :=
  match t.kind with
  | .fixed d => d
  | .zero => 0
  | .var .. => σ.dur t.name

/-- documented meaning of a scheduled task -/
structure TaskValid (σ : Sched) (t : Task) : Prop where
  start_nonneg : 0 ≤ σ.start t.name
  end_le : σ.end_ t.name ≤ σ.horizon
  dur_eq : σ.end_ t.name - σ.start t.name = σ.durOfTask t
  durOK : t.DurOK (σ.durOfTask t)
  release : ∀ r, t.release = some r → r ≤ σ.start t.name
  deadline : ∀ d, t.due = some d → t.deadline = true → σ.end_ t.name ≤ d

theorem envOf_tStart (st : State) (σ : Sched) (t : Task) (h : st.findTask t.name = some t) :
    (envOf st σ).i (.tStart t.name) = tStartOf σ t := by
  rw [envOf_prim st σ _ rfl]; simp only [envPrim, h]
theorem envOf_tEnd (st : State) (σ : Sched) (t : Task) (h : st.findTask t.name = some t) :
    (envOf st σ).i (.tEnd t.name) = tEndOf σ t := by
  rw [envOf_prim st σ _ rfl]; simp only [envPrim, h]
theorem envOf_tDur (st : State) (σ : Sched) (t : Task) (h : st.findTask t.name = some t) :
    (envOf st σ).i (.tDur t.name) = tDurOf σ t := by
  rw [envOf_prim st σ _ rfl]; simp only [envPrim, h]

@[simp] theorem envOf_sched (st : State) (σ : Sched) (n : String) : (envOf st σ).b (.sched n) = σ.sched n := rfl
@[simp] theorem envOf_sel (st : State) (σ : Sched) (s : Nat) (w : String) : (envOf st σ).b (.sel s w) = σ.sel s w := rfl
@[simp] theorem envOf_applied (st : State) (σ : Sched) (c : Nat) : (envOf st σ).b (.applied c) = σ.applied c := rfl
@[simp] theorem envOf_horizon (st : State) (σ : Sched) : (envOf st σ).i .horizon = σ.horizon := rfl

theorem scheduled_envOf (st : State) (σ : Sched) (t : Task) : Scheduled (envOf st σ) t ↔ σ.isSched t = true := by
  unfold Scheduled Sched.isSched
  cases t.optional <;> simp

theorem Sched.isSched_of_mandatory (σ : Sched) {t : Task} (h : t.optional = false) : σ.isSched t = true := by
  simp [Sched.isSched, h]

section
variable {st : State} {σ : Sched} {t : Task} (hf : st.findTask t.name = some t)
include hf

theorem envOf_tStart_sched (hs : σ.isSched t = true) : (envOf st σ).i (.tStart t.name) = σ.start t.name := by
  rw [envOf_tStart st σ t hf, tStartOf, if_pos hs]
theorem envOf_tEnd_sched (hs : σ.isSched t = true) : (envOf st σ).i (.tEnd t.name) = σ.end_ t.name := by
  rw [envOf_tEnd st σ t hf, tEndOf, if_pos hs]
theorem durV_envOf_sched (hs : σ.isSched t = true) : t.durV (envOf st σ) = σ.durOfTask t := by
  unfold Task.durV Sched.durOfTask
  rw [envOf_tDur st σ t hf, tDurOf, if_pos hs]
  cases t.kind <;> rfl

theorem envOf_parked (hs : ¬ σ.isSched t = true) :
    (envOf st σ).i (.tStart t.name) = t.pastPoint ∧ (envOf st σ).i (.tEnd t.name) = t.pastPoint ∧
    (envOf st σ).i (.tDur t.name) = 0 := by
  rw [envOf_tStart st σ t hf, envOf_tEnd st σ t hf, envOf_tDur st σ t hf, tStartOf, tEndOf, tDurOf, if_neg hs, if_neg hs,
    if_neg hs]
  exact ⟨rfl, rfl, rfl⟩
end

/-- **C05 (tasks).** The assertions of a task (release date, deadline, type-specific timing, or the parking of an
    unscheduled optional task) and its `end ≤ horizon` hold under the witness interpretation of a valid schedule. -/
theorem task_complete (st : State) (σ : Sched) (t : Task) (hf : st.findTask t.name = some t)
    (hhor : 0 ≤ σ.horizon) (hv : σ.isSched t = true → TaskValid σ t) :
    Sat (envOf st σ) (t.initAsserts ++ [t.horizonFml]) := by
  rw [Sat.append, Task.initAsserts, t.setAssertions_sat, scheduled_envOf]
  refine ⟨⟨fun hs => ?_, fun hs => ?_⟩, ?_⟩
  · have v := hv hs
    rw [Task.guarded, Sat.append, t.releaseDue_sat, t.baseList_sat, durV_envOf_sched hf hs, Task.startV, Task.endV,
      envOf_tStart_sched hf hs, envOf_tEnd_sched hf hs]
    exact ⟨⟨fun r hr _ => v.release r hr, v.deadline⟩, v.start_nonneg, v.dur_eq, v.durOK⟩
  · obtain ⟨h1, h2, h3⟩ := envOf_parked hf hs
    exact (t.notScheduled_eval _).2 ⟨h1, h2, fun _ => h3⟩
  · simp only [Task.horizonFml, sem, envOf_horizon]
    by_cases hs : σ.isSched t = true
    · rw [envOf_tEnd_sched hf hs]; exact (hv hs).end_le
    · rw [(envOf_parked hf hs).2.1, Task.pastPoint]; omega

/-- each (task, worker) pair has one requirement: the one `envOf` looks up -/
def ReqsOK (st : State) : Prop :=
  ∀ t ∈ st.tasks, ∀ r ∈ st.reqsOf t.name, st.reqFor r.worker t.name = some r

theorem envOf_busy (st : State) (σ : Sched) (t : Task) (r : Req) (m : Bool)
    (hf : st.findTask t.name = some t) (hr : st.reqFor r.worker t.name = some r) :
    (envOf st σ).i (.busyS r.worker t.name m) = (busyOfReq σ t r).1 ∧
    (envOf st σ).i (.busyE r.worker t.name m) = (busyOfReq σ t r).2 := by
  rw [envOf_prim st σ _ rfl, envOf_prim st σ _ rfl]; simp only [envPrim, hf, hr, and_self]

/-- a dynamically assigned worker joins and leaves inside the span of its (scheduled) task -/
def DynValid (σ : Sched) (t : Task) (r : Req) : Prop :=
  σ.start t.name ≤ σ.dynS r.worker t.name ∧ σ.dynS r.worker t.name ≤ σ.dynE r.worker t.name ∧
  σ.dynE r.worker t.name ≤ σ.end_ t.name

theorem req_complete (st : State) (σ : Sched) (t : Task) (r : Req)
    (hf : st.findTask t.name = some t) (hr : st.reqFor r.worker t.name = some r)
    (hdyn : r.sel = none → r.dynamic = true → σ.isSched t = true → DynValid σ t r) :
    ReqExact t r (envOf st σ) := by
  unfold ReqExact DynValid at *
  simp only [(envOf_busy st σ t r _ hf hr).1, (envOf_busy st σ t r _ hf hr).2, Task.startV, Task.endV,
    envOf_tStart st σ t hf, envOf_tEnd st σ t hf, envOf_sel]
  unfold busyOfReq
  cases hs : r.sel with
  | some s => by_cases hb : σ.sel s r.worker = true <;> simp [hb]
  | none =>
      cases hd : r.dynamic
      · simp
      · by_cases hsch : σ.isSched t = true
        · simpa [hsch, tStartOf, tEndOf] using hdyn hs hd hsch
        · simp [hsch, tStartOf, tEndOf]

def Sched.nSelected (σ : Sched) (s : Select) : Nat := s.workers.countP (fun w => σ.sel s.id w)

/-- **C05 (requirements).** Every formula a task's `add_required_resource` calls assert holds under the witness
    interpretation. -/
theorem reqs_complete (st : State) (σ : Sched) (t : Task) (hf : st.findTask t.name = some t)
    (hreq : ∀ r ∈ st.reqsOf t.name, st.reqFor r.worker t.name = some r)
    (hdyn : ∀ r ∈ st.reqsOf t.name, r.sel = none → r.dynamic = true → σ.isSched t = true → DynValid σ t r)
    (hcount : ∀ s rs, ReqEvent.viaSelect t.name s rs true ∈ st.eventsOf t.name → CountOK s.kind (σ.nSelected s) s.n) :
    Sat (envOf st σ) ((st.eventsOf t.name).flatMap (·.fmls t)) := by
  rw [Sat_flatMap]
  refine fun ev hev => (ev.fmls_sat t _).2 ⟨fun r hr => ?_, fun tn s rs h => ?_⟩
  · have hrr : r ∈ st.reqsOf t.name := State.mem_reqsOf.2 ⟨ev, hev, hr⟩
    exact req_complete st σ t r hf (hreq r hrr) (hdyn r hrr)
  · subst h
    obtain rfl : tn = t.name := (State.mem_eventsOf.1 hev).2
    exact hcount s rs hev

/-- task groups on a schedule: the scheduled members lie inside the window; without a window, the span from the
    earliest start to the latest end of the scheduled members is at most `len` -/
def GroupMeaningS (σ : Sched) (ts : List Task) (window : Option (Int × Int)) (len : Int) : Prop :=
  match window with
  | some (lo, hi) => ∀ t ∈ ts, σ.isSched t = true → lo ≤ σ.start t.name ∧ σ.end_ t.name ≤ hi
  | none => ∀ t ∈ ts, ∀ t' ∈ ts, σ.isSched t = true → σ.isSched t' = true → σ.end_ t.name - σ.start t'.name ≤ len

/-- consecutive members of an ordered group, when both are scheduled: `end ⋈ next start` -/
def ConsecS (k : OrdKind) (σ : Sched) : List Task → Prop
  | a :: b :: rest =>
      (σ.isSched a = true → σ.isSched b = true → ordHolds k (σ.end_ a.name) (σ.start b.name)) ∧ ConsecS k σ (b :: rest)
  | _ => True

/-- the documented meaning of the constraint classes of the core fragment, on a schedule (the two group classes are
    outside `CBody.inCore`: they come with auxiliary variables and are handled by `PS/Theorems/Groups.lean`) -/
def CoreMeaning (st : State) (σ : Sched) : CBody → Prop
  | .unorderedGroup ts window len => GroupMeaningS σ ts window len
  | .orderedGroup ts window len kind => GroupMeaningS σ ts window len ∧ ConsecS kind σ ts
  | .startAt t v => σ.isSched t = true → σ.start t.name = v
  | .startAfter t v strict => σ.isSched t = true → (if strict then v < σ.start t.name else v ≤ σ.start t.name)
  | .endAt t v => σ.isSched t = true → σ.end_ t.name = v
  | .endBefore t v strict => σ.isSched t = true → (if strict then σ.end_ t.name < v else σ.end_ t.name ≤ v)
  | .precedence b a off kind =>
      σ.isSched b = true → σ.isSched a = true → ordHolds kind (σ.end_ b.name + max 0 off) (σ.start a.name)
  | .startSynced t1 t2 => σ.isSched t1 = true → σ.isSched t2 = true → σ.start t1.name = σ.start t2.name
  | .endSynced t1 t2 => σ.isSched t1 = true → σ.isSched t2 = true → σ.end_ t1.name = σ.end_ t2.name
  | .dontOverlap t1 t2 =>
      σ.isSched t1 = true → σ.isSched t2 = true →
        (σ.end_ t1.name ≤ σ.start t2.name ∨ σ.end_ t2.name ≤ σ.start t1.name) ∧
        -- the encoding uses xor (F36): two zero-length tasks at one instant are outside the core fragment
        ¬ (σ.end_ t1.name ≤ σ.start t2.name ∧ σ.end_ t2.name ≤ σ.start t1.name)
  | .forceSchedule t b => σ.sched t.name = b
  | .conditionSchedule t cond => (σ.sched t.name = true ↔ cond.eval (envOf st σ))
  | .dependency t1 t2 => (σ.sched t2.name = true ↔ σ.isSched t1 = true)
  | .forceScheduleN ts n kind =>
      (match kind with
       | .exact => ts.countP (fun t => σ.sched t.name) = n
       | .min => n ≤ ts.countP (fun t => σ.sched t.name)
       | .max => ts.countP (fun t => σ.sched t.name) ≤ n)
  | .fromExpr f => f.eval (envOf st σ)
  | .forceApplyN cs n kind =>
      (match kind with
       | .exact => cs.countP σ.applied = n
       | .min => n ≤ cs.countP σ.applied
       | .max => cs.countP σ.applied ≤ n)
  | .unavailable busy ivs => ∀ b ∈ busy, ∀ iv ∈ ivs, iv.2 ≤ b.sV (envOf st σ) ∨ b.eV (envOf st σ) ≤ iv.1
  | .sameWorkers s1 s2 => ∀ w ∈ s1.workers, w ∈ s2.workers → σ.sel s1.id w = σ.sel s2.id w
  -- constraints on indicators: the value the witness interpretation gives the indicator (its definition) meets them
  | .indicatorTarget v value => (envOf st σ).i v = value
  | .indicatorBounds v lo hi => (∀ l, lo = some l → l ≤ (envOf st σ).i v) ∧ (∀ h, hi = some h → (envOf st σ).i v ≤ h)
  -- the interruption classes (no auxiliary variables): the requirement on every busy interval the constraint was
  -- declared on, read on the busy intervals the schedule induces; for the periodic classes the window of the period
  -- the interval starts in (what the documented meaning — all repetitions — implies a fortiori)
  | .interrupted ws ivs => (∀ iv ∈ ivs, iv.1 < iv.2) ∧
      ∀ w ∈ ws, ∀ bt ∈ w, bt.1.sV (envOf st σ) ≤ bt.1.eV (envOf st σ) ∧
        InterruptedExact (envOf st σ) (bt.1.sV (envOf st σ)) (bt.1.eV (envOf st σ)) bt.2 ivs
  | .periodicallyUnavailable busy ivs period start offset end_ => (∀ iv ∈ ivs, iv.1 < iv.2) ∧
      ∀ b ∈ busy, b.sV (envOf st σ) ≤ b.eV (envOf st σ) ∧ ∀ iv ∈ ivs,
        PeriodicMasked (envOf st σ) b start end_ ∨
        (iv.2 + offset + period * ((b.sV (envOf st σ) - offset) / period) ≤ b.sV (envOf st σ) ∨
         b.eV (envOf st σ) ≤ iv.1 + offset + period * ((b.sV (envOf st σ) - offset) / period))
  | .periodicallyInterrupted busy ivs period start offset end_ =>
      0 < period ∧ (∀ iv ∈ ivs, 0 ≤ iv.1 ∧ iv.1 < iv.2 ∧ iv.2 ≤ period) ∧
      ∀ bt ∈ busy, bt.1.sV (envOf st σ) ≤ bt.1.eV (envOf st σ) ∧
        (PeriodicMasked (envOf st σ) bt.1 start end_ ∨
         PeriodicInterruptedExact (envOf st σ) (bt.1.sV (envOf st σ)) (bt.1.eV (envOf st σ)) bt.2 ivs period offset)
  | b => if b.isConn then ConnMeaning (envOf st σ) b else False

def CBody.inCore : CBody → Bool
  | .startAt .. | .startAfter .. | .endAt .. | .endBefore .. | .precedence .. | .startSynced .. | .endSynced ..
  | .dontOverlap .. | .forceSchedule .. | .conditionSchedule .. | .dependency .. | .forceScheduleN ..
  | .fromExpr .. | .forceApplyN .. | .unavailable .. | .sameWorkers ..
  | .interrupted .. | .periodicallyUnavailable .. | .periodicallyInterrupted ..
  | .indicatorTarget .. | .indicatorBounds .. => true
  | b => b.isConn

/-- under the guards, the witness gives a declared, scheduled task the times it has in σ -/
theorem CoreMeaning_envOf (st : State) (σ : Sched) (b : CBody) (hb : b.taskExact = true)
    (ht : ∀ t ∈ b.coreTasks, st.findTask t.name = some t) : CoreMeaning st σ b ↔ TaskMeaning (envOf st σ) b := by
  cases b <;> cases hb <;>
    simp only [CBody.coreTasks, List.forall_mem_cons, List.not_mem_nil, false_implies, implies_true, and_true] at ht <;>
    simp +contextual only [CoreMeaning, TaskMeaning, scheduled_envOf, Task.startV, Task.endV, envOf_sched, countSched,
      envOf_tStart_sched, envOf_tEnd_sched, ht]
  exact Iff.rfl  -- ForceScheduleNOptionalTasks: the same count

theorem core_raw_complete (st : State) (σ : Sched) (c : Nat) (b : CBody) (hin : b.inCore = true)
    (ht : ∀ t ∈ b.coreTasks, st.findTask t.name = some t)
    (hm : CoreMeaning st σ b) : Sat (envOf st σ) (b.raw c) := by
  cases b <;> cases hin
  case startAt | startAfter | endAt | endBefore | precedence | startSynced | endSynced | forceSchedule | dependency
      | forceScheduleN =>
    exact (CBody.raw_sat c _ rfl _).2 ((CoreMeaning_envOf st σ _ rfl ht).1 hm)
  case dontOverlap t1 t2 =>
    simp only [CBody.raw, sem, scheduled_envOf]
    intro h1 h2
    rw [envOf_tStart_sched (ht t1 (.head _)) h1, envOf_tStart_sched (ht t2 (.tail _ (.head _))) h2,
      envOf_tEnd_sched (ht t1 (.head _)) h1, envOf_tEnd_sched (ht t2 (.tail _ (.head _))) h2]
    -- `xor` of the two orders: one holds, not both
    have := hm h1 h2
    omega
  case conditionSchedule t cond =>
    simp only [CoreMeaning] at hm
    simp only [CBody.raw, sem, envOf_sched, ← hm]
    cases σ.sched t.name <;> simp
  case forceApplyN cs n kind =>
    simp only [CBody.raw, sem, envOf_applied]
    exact hm
  case sameWorkers s1 s2 =>
    simp only [CBody.raw, sem, List.mem_filter, envOf_sel]
    exact fun w hw => by rw [hm w hw.1 (by simpa using hw.2)]
  -- formulas and indicator variables are read under the witness itself
  case fromExpr | indicatorTarget => simp only [CBody.raw, sem]; exact hm
  case indicatorBounds v lo hi =>
    simp only [CBody.raw, Sat.append]
    exact ⟨by cases lo <;> simp only [sem]; exact hm.1 _ rfl, by cases hi <;> simp only [sem]; exact hm.2 _ rfl⟩
  case not_ | or_ | and_ | xor_ | implies | ifThenElse =>
    simp only [CoreMeaning, CBody.isConn, if_true] at hm
    exact (C10_connective_raw c _ rfl _).2 hm
  case unavailable busy ivs =>
    simp only [CBody.raw, sem]
    exact fun iv hiv br hbr => hm br hbr iv hiv
  case interrupted ws ivs =>
    obtain ⟨hwf, hall⟩ := hm
    simp only [CBody.raw, sem]
    exact fun w hw bt hbt =>
      interruptedOne_complete bt.1 bt.2 ivs _ hwf (hall w hw bt hbt).1 (hall w hw bt hbt).2
  case periodicallyUnavailable busy ivs period start offset end_ =>
    obtain ⟨hwf, hall⟩ := hm
    simp only [CBody.raw, Sat_flatMap, Sat_map]
    exact fun iv hiv b hb =>
      periodicOne_complete b iv period start offset end_ _ (hwf iv hiv) (hall b hb).1 ((hall b hb).2 iv hiv)
  case periodicallyInterrupted busy ivs period start offset end_ =>
    obtain ⟨hp, hwf, hall⟩ := hm
    simp only [CBody.raw, Sat_map]
    exact fun bt hbt => (periodicInterruptedFml_eval ..).2 ((hall bt hbt).2.imp_right
      (periodicInterruptedOne_complete bt.1 bt.2 ivs period offset _ hp hwf (hall bt hbt).1))

theorem noOverlapPairs_complete (ρ : Env) (w : String) (l : List (String × Bool))
    (h : l.Pairwise (Disjoint2 ρ w)) : Sat ρ (noOverlapPairs w l) :=
  (noOverlapPairs_sat ρ w l).2 h

/-- the indicators of the problem are of the single-equation kind (`indicator = T`, `IBody.defTerm`), `T`
    quantifier free over the primary variables, and their variables are pairwise different indicator variables -/
structure IndsOK (st : State) : Prop where
  isInd : ∀ ind ∈ st.indicators, ind.var.isInd = true
  distinct : st.indicators.Pairwise (fun a b => a.var ≠ b.var)
  simple : ∀ ind ∈ st.indicators, ∃ T, ind.body.defTerm = some T ∧ T.qf = true ∧
    T.varsIn (fun v => !v.isInd) = true

theorem envOf_agree (st : State) (σ : Sched) : Env.AgreeOn (fun v => !v.isInd) (envPrim st σ) (envOf st σ) :=
  Env.AgreeOn.update_i _ _ fun v hv => (envOf_prim st σ v (by simpa using hv)).symm

theorem envOf_indicator (st : State) (σ : Sched) (hok : IndsOK st) (ind : Indicator) (hi : ind ∈ st.indicators)
    (T : Term) (hT : ind.body.defTerm = some T) : (envOf st σ).i ind.var = T.eval (envOf st σ) := by
  obtain ⟨T', hT', hqf, hvars⟩ := hok.simple ind hi
  obtain rfl : T' = T := Option.some.inj (hT'.symm.trans hT)
  have hval : (envOf st σ).i ind.var = T'.evalB (envPrim st σ) := by
    simp only [envOf, hok.isInd ind hi, if_true, find?_key (fun i : Indicator => i.var) _ (List.pairwise_map.2 hok.distinct) ind hi, hT]
  rw [hval, Term.evalB_eq _ T' hqf]
  exact Term.eval_congr _ _ _ (envOf_agree st σ) T' hvars

theorem Indicator.asserts_sat {ind : Indicator} {T : Term} (hT : ind.body.defTerm = some T) (ρ : Env) :
    Sat ρ ind.asserts ↔ ρ.i ind.var = T.eval ρ := by
  rw [Indicator.asserts, IBody.defTerm_fmls ind.body ind.id (.var ind.var) T hT]
  simp only [sem]

/-- **C05 (indicators).** Under the witness interpretation every single-equation indicator takes the value of its
    defining term, so its assertion holds. -/
theorem indicator_complete (st : State) (σ : Sched) (hok : IndsOK st) (ind : Indicator) (hi : ind ∈ st.indicators) :
    Sat (envOf st σ) ind.asserts := by
  obtain ⟨T, hT, _⟩ := hok.simple ind hi
  exact (Indicator.asserts_sat hT _).2 (envOf_indicator st σ hok ind hi T hT)

/-- the problem uses only elements of the core fragment (each exclusion is a recorded finding) -/
structure InCore (st : State) : Prop where
  names : NamesOK st
  reqs : ReqsOK st
  constrs : ∀ c ∈ st.constrs, c.operand = false →
    c.body.inCore = true ∧ (c.optional = true → c.body.direct = false) ∧
    ∀ t ∈ c.body.coreTasks, st.findTask t.name = some t
  indicators : IndsOK st
  no_buffers : st.buffers = []
  single_objective : st.objectives.length ≤ 1

/-- σ satisfies the documented meaning of every element of the problem -/
structure Valid (st : State) (σ : Sched) : Prop where
  horizon_nonneg : 0 ≤ σ.horizon
  horizon_le : ∀ H, st.horizon = some H → σ.horizon ≤ H
  tasks : ∀ t ∈ st.tasks, σ.isSched t = true → TaskValid σ t
  dyn : ∀ t ∈ st.tasks, ∀ r ∈ st.reqsOf t.name, r.sel = none → r.dynamic = true → σ.isSched t = true → DynValid σ t r
  counts : ∀ t ∈ st.tasks, ∀ s rs, ReqEvent.viaSelect t.name s rs true ∈ st.eventsOf t.name →
    CountOK s.kind (σ.nSelected s) s.n
  no_overlap : ∀ w ∈ st.workers, (st.busyOf w.name).Pairwise (Disjoint2 (envOf st σ) w.name)
  work : ∀ t ∈ st.tasks, 0 < t.work → workTerms st t ≠ [] → σ.isSched t = true →
    t.work ≤ Term.evalSum (envOf st σ) (workTerms st t)
  constrs : ∀ c ∈ st.constrs, c.operand = false → (c.optional = true → σ.applied c.id = true) → CoreMeaning st σ c.body

/-- the documented meaning reads the problem through the witness interpretation only -/
theorem CoreMeaning_env {st st' : State} {σ : Sched} (h : envOf st σ = envOf st' σ) (b : CBody) :
    CoreMeaning st σ b ↔ CoreMeaning st' σ b := by
  unfold CoreMeaning
  rw [h]

/-- **C05 (completeness, core fragment).** The interpretation that corresponds to a valid schedule satisfies every
    assertion of `initialize`, under every configuration. -/
theorem C05_complete_core (cfg : Config) (st : State) (σ : Sched) (hcore : InCore st) (hv : Valid st σ) :
    Sat (envOf st σ) (initFmls cfg st) := by
  rw [Sat_initFmls_iff]
  refine ⟨fun t ht => ?_, fun w hw => noOverlapPairs_complete _ w.name _ (hv.no_overlap w hw), fun c hc hop => ?_,
    fun i hi => indicator_complete st σ hcore.indicators i hi, fun t ht => ?_, fun b hb => ?_, ?_, ?_⟩
  · have hf := hcore.names t ht
    have hT := Sat.append.1 (task_complete st σ t hf hv.horizon_nonneg (hv.tasks t ht))
    exact ⟨Sat.append.2 ⟨hT.1, reqs_complete st σ t hf (hcore.reqs t ht) (hv.dyn t ht) (hv.counts t ht)⟩,
      hT.2 _ (List.mem_singleton_self _)⟩
  · obtain ⟨hin, hdir, htk⟩ := hcore.constrs c hc hop
    exact (c.asserts_sat hdir _).2 fun happ => core_raw_complete st σ c.id c.body hin htk (hv.constrs c hc hop happ)
  · exact (workAmount_sat st t _).2 fun hw hne hs => hv.work t ht hw hne ((scheduled_envOf st σ t).1 hs)
  · rw [hcore.no_buffers] at hb; cases hb
  · exact (st.problemAsserts_sat _).2 hv.horizon_le
  · rw [objectiveFmls_of_le_one cfg st hcore.single_objective]; exact Sat.nil

/-- `enc` turns every schedule in `V` into a model of `A`: all that the verdict below, optimality (`C07V.lean`) and
    exhaustive enumeration (`C12V.lean`) on schedules need of an encoding -/
def Complete (A : List Fml) (V : Sched → Prop) (enc : Sched → Env) : Prop := ∀ σ, V σ → Sat (enc σ) A

theorem Complete.unsat {A : List Fml} {V : Sched → Prop} {enc : Sched → Env} (h : Complete A V enc)
    (hu : ConsistentAns A .unsat) : ¬ ∃ σ, V σ :=
  fun ⟨σ, hv⟩ => hu ⟨_, h σ hv⟩

/-- **C05 (verdict).** On a problem of the core fragment that has a valid schedule, a consistent oracle cannot answer
    `unsat` to the assertions of `initialize`. -/
theorem C05_unsat_means_no_valid_schedule (cfg : Config) (st : State) (hcore : InCore st)
    (hunsat : ConsistentAns (initFmls cfg st) .unsat) : ¬ ∃ σ, Valid st σ :=
  Complete.unsat (C05_complete_core cfg st · hcore) hunsat

/-! ### non-vacuity: concrete problems and schedules whose witness interpretation satisfies every assertion of
    `initialize` (evaluated by the kernel) -/

def C05_exState : State :=
  run [.problem "p" (some 12),
       .task "A" (.fixed 3) false 2 (some 1) (some 9) true 1,
       .task "B" (.var 1 (some 4) (some [2, 3])) true 0 none none true 1,
       .task "C" (.zero) true 0 none none true 1,
       .worker "W" 1 (.const 0), .worker "V" 2 (.const 0),
       .select none ["W", "V"] 1 .exact,
       .require "A" (.select 0) false 0 0,
       .require "B" (.worker "W") true 0 0,
       .constr none false (.precedence "A" "B" 1 .lax),
       .constr none true (.startAt "A" 2),
       .constr none false (.forceSchedule "C" false),
       .constr none false (.not_ (.ref 1)),
       .constr none false (.unavailable "W" [(0, 1)])]

def C05_exSched : Sched :=
  { sched := fun n => n == "B"
    start := fun n => if n == "A" then 1 else if n == "B" then 5 else 0
    end_ := fun n => if n == "A" then 4 else if n == "B" then 7 else 0
    dur := fun n => if n == "B" then 2 else 0
    sel := fun s w => s == 0 && w == "V"
    applied := fun c => c == 1        -- the operand of `Not` is applied, and violated: A starts at 1
    dynS := fun _ _ => 5
    dynE := fun _ _ => 6
    horizon := 10 }

example : satB (envOf C05_exState C05_exSched) (initFmls {} C05_exState) = true := by decide +kernel
example : C05_exState.constrs.length = 5 ∧ C05_exState.reqLog.length = 2 := by decide +kernel

/-- the interruption classes: a fixed-duration task placed between the windows, a variable-duration task that
    spans one repetition `(12, 14)` of the periodic interruption and is lengthened by its length -/
def C05_exState2 : State :=
  run [.problem "p" (some 30),
       .task "F" (.fixed 3) false 0 none none true 1,
       .task "V" (.var 2 (some 6) none) false 0 none none true 1,
       .worker "W" 1 (.const 0),
       .require "F" (.worker "W") false 0 0,
       .require "V" (.worker "W") false 0 0,
       .constr none false (.interrupted "W" [(4, 6)]),
       .constr none false (.periodicallyInterrupted "W" [(2, 4)] 10 0 0 none),
       .constr none false (.periodicallyUnavailable "W" [(7, 8)] 10 0 0 (some 25))]

def C05_exSched2 : Sched :=
  { sched := fun _ => false
    start := fun n => if n == "F" then 8 else 12
    end_ := fun n => if n == "F" then 11 else 16
    dur := fun n => if n == "F" then 3 else 4
    sel := fun _ _ => false
    applied := fun _ => false
    dynS := fun _ _ => 0
    dynE := fun _ _ => 0
    horizon := 20 }

theorem C05_ex2_model :
    (initFmls {} C05_exState2).all (fun a => a.qf && a.evalB (envOf C05_exState2 C05_exSched2)) = true := by
  decide +kernel

example : satB (envOf C05_exState2 C05_exSched2) (initFmls {} C05_exState2) = true := by
  have h := C05_ex2_model
  simp only [List.all_eq_true, Bool.and_eq_true] at h
  exact List.all_eq_true.2 fun a ha => (h a ha).2
example : C05_exState2.constrs.length = 3 ∧ (C05_exState2.constrs.all (fun c => c.body.inCore)) = true := by decide +kernel
-- one unit shorter is rejected: V = [12, 15] spans the repetition (12, 14), so it needs duration ≥ 2 + 2
example : satB (envOf C05_exState2 { C05_exSched2 with end_ := fun n => if n == "F" then 11 else 15, dur := fun n => if n == "F" then 3 else 3 })
    (initFmls {} C05_exState2) = false := by decide +kernel

/-- an optimisation problem: a flow-time objective (which creates its indicator), a utilisation and a tardiness
    indicator; the witness interpretation gives the indicators the values of their definitions -/
def C05_exState3 : State :=
  run [.problem "p" (some 12),
       .task "A" (.fixed 3) false 0 none (some 5) false 2,
       .task "B" (.var 1 (some 4) none) true 0 none none true 1,
       .worker "W" 1 (.const 0),
       .require "A" (.worker "W") false 0 0,
       .require "B" (.worker "W") false 0 0,
       .constr none false (.precedence "A" "B" 0 .lax),
       .indicator (.utilization "W"),
       .indicator (.tardiness (some ["A"])),
       .objective (.flowtime none)]

def C05_exSched3 : Sched :=
  { sched := fun n => n == "B"
    start := fun n => if n == "A" then 4 else 8
    end_ := fun n => if n == "A" then 7 else 10
    dur := fun n => if n == "A" then 3 else 2
    sel := fun _ _ => false
    applied := fun _ => false
    dynS := fun _ _ => 0
    dynE := fun _ _ => 0
    horizon := 12 }

example : satB (envOf C05_exState3 C05_exSched3) (initFmls {} C05_exState3) = true := by decide +kernel
-- utilisation ⌊100·5/12⌋ = 41, weighted tardiness 2·(7 − 5) = 4, flow time 7 + 10 = 17
example : C05_exState3.indicators.map (fun ind => (envOf C05_exState3 C05_exSched3).i ind.var) = [41, 4, 17] := by
  decide +kernel
-- the hypotheses `IndsOK` asks of the indicators
example : (C05_exState3.indicators.all (fun ind => ind.var.isInd &&
    (match ind.body.defTerm with | some T => T.qf && T.varsIn (fun v => !v.isInd) | none => false))) = true ∧
    C05_exState3.indicators.length = 3 ∧ C05_exState3.objectives.length = 1 := by decide +kernel

end PS
