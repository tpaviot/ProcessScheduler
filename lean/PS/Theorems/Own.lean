/-
  What the documented meaning reads of an interpretation: the problem's own variables.

  `Valid st σ` mentions the witness interpretation `envOf st σ` in three places: the non-overlap of the entries of a
  worker's busy dictionary, the work sums, and the constraint classes that evaluate a formula, a busy interval or an
  indicator (`CoreMeaning`).  For a problem of the fragment all three read variables of `State.ownI2` only, so they
  have the same value under two interpretations that agree there: `no_overlap_congr`, `workSum_congr`, and, for two
  witnesses, `CoreMeaning_of_agree`.  The exactness theorem uses the first two for an admitted ρ and the witness of the
  schedule read off it (`Exact.lean`; for the constraints `core_raw_sound` goes class by class, from what C03 / C04 / C10
  prove of ρ), C06 all three for the witnesses of a problem with and without a task (`Absent.lean`).
-/
import PS.Theorems.C05
import PS.Proofs.BusyDict
import PS.Proofs.Congr2
import PS.Spec.Fragment
namespace PS

theorem ownI_busy {st : State} {w n : String} {m : Bool} :
    st.ownI (.busyS w n m) = true ↔ ∃ ev ∈ st.reqLog, ∃ r ∈ ev.reqs, r.worker = w ∧ ev.task = n ∧ r.maybe = m := by
  simp only [State.ownI, List.any_eq_true, Bool.and_eq_true, beq_iff_eq]
  exact ⟨fun ⟨ev, hev, hn, r, hr, hw, hm⟩ => ⟨ev, hev, r, hr, hw, hn, hm⟩,
    fun ⟨ev, hev, r, hr, hw, hn, hm⟩ => ⟨ev, hev, hn, r, hr, hw, hm⟩⟩

theorem busyOf_owned (st : State) (w : String) (e : String × Bool) (he : e ∈ st.busyOf w) :
    st.ownsBusy ⟨w, e.1, e.2⟩ = true :=
  have h : st.ownI (.busyS w e.1 e.2) = true := ownI_busy.2 (busyOf_mem st w e he)
  (Bool.and_eq_true _ _).mpr ⟨h, h⟩

theorem ownI_not_isInd (st : State) (v : IVar) (h : st.ownI v = true) : v.isInd = false := by
  cases v <;> first | rfl | exact Bool.noConfusion h

theorem ownI2_indicator {st : State} {ind : Indicator} (hi : ind ∈ st.indicators) : st.ownI2 ind.var = true :=
  Bool.or_eq_true_iff.2 (.inr (List.any_eq_true.2 ⟨ind, hi, beq_self_eq_true _⟩))

section
variable {st : State} {ρ ρ' : Env} (hag : Env.AgreeOn2 st.ownI2 ownB ρ ρ')
include hag

theorem Env.AgreeOn2.busy {b : BusyRef} (hb : st.ownsBusy b = true) : b.sV ρ = b.sV ρ' ∧ b.eV ρ = b.eV ρ' := by
  simp only [State.ownsBusy, Bool.and_eq_true] at hb
  exact ⟨hag.i _ (Bool.or_eq_true_iff.2 (.inl hb.1)), hag.i _ (Bool.or_eq_true_iff.2 (.inl hb.2))⟩

theorem Env.AgreeOn2.dur {t : Task} (hf : st.findTask t.name = some t) (hv : t.isVar = true) :
    ρ.i (.tDur t.name) = ρ'.i (.tDur t.name) :=
  hag.i _ (by simp only [State.ownI2, State.ownI, hf, hv, Bool.true_or])

theorem Env.AgreeOn2.indicator {v : IVar} (hv : st.indicators.any (fun ind => ind.var == v) = true) : ρ.i v = ρ'.i v :=
  hag.i v (Bool.or_eq_true_iff.2 (.inr hv))

end

theorem Disjoint2_congr (ρ ρ' : Env) (w : String) (l : List (String × Bool))
    (h : ∀ e ∈ l, ρ'.i (.busyS w e.1 e.2) = ρ.i (.busyS w e.1 e.2) ∧ ρ'.i (.busyE w e.1 e.2) = ρ.i (.busyE w e.1 e.2))
    (hp : l.Pairwise (Disjoint2 ρ w)) : l.Pairwise (Disjoint2 ρ' w) := by
  refine hp.imp_of_mem fun {a b} ha hb hd => ?_
  unfold Disjoint2 at hd ⊢
  rw [(h a ha).1, (h a ha).2, (h b hb).1, (h b hb).2]
  exact hd

theorem no_overlap_congr (st : State) (ρ ρ' : Env) (hag : Env.AgreeOn2 st.ownI2 ownB ρ ρ') (w : String)
    (hp : (st.busyOf w).Pairwise (Disjoint2 ρ w)) : (st.busyOf w).Pairwise (Disjoint2 ρ' w) :=
  Disjoint2_congr ρ ρ' w _ (fun e he => have h := hag.busy (busyOf_owned st w e he); ⟨h.1.symm, h.2.symm⟩) hp

/-- the work sum of a task reads own busy intervals: the flag it looks up is the one of the task's dictionary entry -/
theorem workTerms_plain (st : State) (t : Task) (x : Term) (hx : x ∈ workTerms st t) :
    x.plainIn st.ownI2 ownB = true := by
  unfold workTerms at hx
  obtain ⟨r, hr, hx⟩ := List.mem_filterMap.1 hx
  cases hfw : st.findWorker r.worker with
  | none => simp [hfw] at hx
  | some w =>
      simp only [hfw, Option.some.injEq] at hx
      subst hx
      have o := busyOf_owned st w.name _ (busyFlag_mem st hr hfw)
      simp only [State.ownsBusy, Bool.and_eq_true] at o
      simp only [Term.plainIn, State.ownI2, numT, bE, bS, o.1, o.2, Bool.true_or, Bool.and_self]

theorem workSum_congr (st : State) (ρ ρ' : Env) (hag : Env.AgreeOn2 st.ownI2 ownB ρ ρ') (t : Task) :
    Term.evalSum ρ (workTerms st t) = Term.evalSum ρ' (workTerms st t) :=
  evalSum_congr_pointwise ρ' ρ _ fun x hx => eval_congr2_term _ _ _ _ hag x (workTerms_plain st t x hx)

theorem InterruptedExact_congr (ρ ρ' : Env) (s e : Int) (t : Task) (ivs : List (Int × Int))
    (hd : t.isVar = true → ρ'.i (.tDur t.name) = ρ.i (.tDur t.name)) :
    InterruptedExact ρ s e t ivs ↔ InterruptedExact ρ' s e t ivs := by
  unfold InterruptedExact
  cases hk : t.kind with
  | var mn mx al =>
      have : ρ'.i (.tDur t.name) = ρ.i (.tDur t.name) := hd (by simp [Task.isVar, hk])
      simp only [this]
  | fixed d | zero => exact Iff.rfl

theorem PeriodicInterruptedExact_congr (ρ ρ' : Env) (s e : Int) (t : Task) (ivs : List (Int × Int)) (p off : Int)
    (hd : t.isVar = true → ρ'.i (.tDur t.name) = ρ.i (.tDur t.name)) :
    PeriodicInterruptedExact ρ s e t ivs p off ↔ PeriodicInterruptedExact ρ' s e t ivs p off := by
  unfold PeriodicInterruptedExact
  cases hk : t.kind with
  | var mn mx al =>
      have : ρ'.i (.tDur t.name) = ρ.i (.tDur t.name) := hd (by simp [Task.isVar, hk])
      simp only [this]
  | fixed d | zero => exact Iff.rfl

/-- the meaning of a constraint of the fragment of `st` reads the witness interpretation — of whatever problem — on
    the own variables of `st` only -/
theorem CoreMeaning_of_agree (s₁ s₂ st : State) (σ : Sched)
    (hag : Env.AgreeOn2 st.ownI2 ownB (envOf s₁ σ) (envOf s₂ σ)) (c : Nat) (b : CBody)
    (hb : b.inCoreS st c = true) (hm : CoreMeaning s₁ σ b) : CoreMeaning s₂ σ b := by
  have dur : ∀ t : Task, st.findTask t.name = some t → t.isVar = true →
      (envOf s₂ σ).i (.tDur t.name) = (envOf s₁ σ).i (.tDur t.name) :=
    fun t hf hv => (hag.dur hf hv).symm
  have conn : ∀ b' : CBody, b'.isConn = true → (∀ a ∈ b'.raw c, st.plainF a = true) →
      ConnMeaning (envOf s₁ σ) b' → ConnMeaning (envOf s₂ σ) b' := by
    intro b' hc hp h
    rw [← C10_connective_raw c b' hc] at h ⊢
    exact (Sat.congr2 hag (List.all_eq_true.2 hp)).1 h
  cases b <;> simp only [CBody.inCoreS, CBody.isConn, Bool.false_eq_true, Bool.false_and, Bool.true_and,
    Bool.and_eq_true, List.all_eq_true, decide_eq_true_eq, beq_iff_eq, and_assoc] at hb
  -- the classes that do not read the interpretation mean the same by definition
  case startAt | startAfter | endAt | endBefore | precedence | startSynced | endSynced | dontOverlap | forceSchedule
      | dependency | forceScheduleN | forceApplyN | sameWorkers => exact hm
  all_goals simp only [CoreMeaning, CBody.isConn, if_true] at hm ⊢
  case conditionSchedule t cond => rwa [← eval_congr2_fml _ _ _ _ hag cond hb]
  case unavailable bs ivs =>
    intro r hr iv hiv
    obtain ⟨e1, e2⟩ := hag.busy (Bool.and_eq_true_iff.2 (hb r hr))
    rw [← e1, ← e2]; exact hm r hr iv hiv
  case interrupted ws ivs =>
    refine ⟨hm.1, fun w hw bt hbt => ?_⟩
    obtain ⟨hown, hf⟩ := hb.2.2 w hw bt hbt
    obtain ⟨e1, e2⟩ := hag.busy hown
    rw [← e1, ← e2]
    exact ⟨(hm.2 w hw bt hbt).1, (InterruptedExact_congr _ _ _ _ bt.2 ivs (dur bt.2 hf)).1 (hm.2 w hw bt hbt).2⟩
  case periodicallyUnavailable bs ivs period start offset end_ =>
    refine ⟨hm.1, fun r hr => ?_⟩
    obtain ⟨e1, e2⟩ := hag.busy (hb.2.2 r hr)
    have := hm.2 r hr
    unfold PeriodicMasked at this ⊢
    rw [← e1, ← e2]; exact this
  case periodicallyInterrupted bs ivs period start offset end_ =>
    refine ⟨hm.1, hm.2.1, fun bt hbt => ?_⟩
    obtain ⟨hown, hf⟩ := hb.2.2.2 bt hbt
    obtain ⟨e1, e2⟩ := hag.busy hown
    have := hm.2.2 bt hbt
    unfold PeriodicMasked at this ⊢
    rw [← e1, ← e2]
    exact ⟨this.1, this.2.imp id (PeriodicInterruptedExact_congr _ _ _ _ bt.2 ivs period offset (dur bt.2 hf)).1⟩
  case indicatorTarget | indicatorBounds => rwa [← hag.indicator hb]
  all_goals exact conn _ rfl hb hm

end PS
