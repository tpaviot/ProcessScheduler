/-
  Task groups inside the exactness theorems (C05, with corollaries for C07, C14, C15): the one constraint class with
  auxiliary variables that has both directions.

  `UnorderedTaskGroup` / `OrderedTaskGroup` come with two helper variables each (`task_group_start_<uuid>`,
  `task_group_end_<uuid>`), which no schedule mentions.  For groups declared at top level (optional or not), over
  declared mandatory tasks (`State.groupsOK`; an optional member left unscheduled makes the real system unsatisfiable,
  finding F18) whose helpers nothing else mentions (`State.freshGroups`, decidable) they are a conservative extension
  of the problem without them (`State.noGroups`):

  * `C05_sound_groups` — every interpretation the assertions of `initialize` admit denotes a schedule that is valid
    for the whole problem, groups included (`GroupMeaningS`, `ConsecS` in `C05.lean`);
  * `C05_complete_groups` — a valid schedule extends to an admitted interpretation (`withGroups`): the helpers take the
    window, or the earliest start of the members and that start plus `len`; every other assertion avoids the helpers;
  * `exact_groups` — the two together, as an exact encoding (`Exact`); `C05_feasible_iff_groups` — the verdict of a
    correct SMT solver on the real assertion list is the existence of a valid schedule — and the theorems on
    attainable values, declaration order, optimality and enumeration (here and in `GroupsV.lean`) are its instances;
    `C05_feasible_iff_groups_multi` adds several objectives through `Exact.multi`.

  The hypotheses are the executable tests `State.fragmentGroupsB` / `fragmentGroupsMultiB` (`PS/Spec/FragmentG.lean`),
  which the driver evaluates for every generated script (`fragmentGroupsB_sound`, `fragmentGroupsMultiB_sound`).
-/
import PS.Theorems.Multi
import PS.Spec.FragmentG
namespace PS

def minL : List Int → Int
  | [] => 0
  | [a] => a
  | a :: b :: r => min a (minL (b :: r))

theorem minL_le : ∀ (l : List Int), ∀ x ∈ l, minL l ≤ x
  | [], x, hx => by cases hx
  | [a], x, hx => by
      simp only [List.mem_singleton] at hx
      subst hx
      simp [minL]
  | a :: b :: r, x, hx => by
      have ih := minL_le (b :: r)
      simp only [minL]
      rcases List.mem_cons.1 hx with h | h
      · subst h; exact Int.min_le_left ..
      · exact Int.le_trans (Int.min_le_right ..) (ih x h)

theorem minL_mem : ∀ (l : List Int), l ≠ [] → minL l ∈ l
  | [], h => absurd rfl h
  | [a], _ => by simp [minL]
  | a :: b :: r, _ => by
      have ih := minL_mem (b :: r) (by simp)
      simp only [minL]
      by_cases hle : a ≤ minL (b :: r)
      · rw [Int.min_eq_left hle]; exact List.mem_cons_self ..
      · rw [Int.min_eq_right (by omega)]; exact List.mem_cons_of_mem _ ih

/-- the values of a group's two helpers on schedule σ -/
def grpVal (σ : Sched) (ts : List Task) (window : Option (Int × Int)) (len : Int) : Int × Int :=
  match window with
  | some (lo, hi) => (lo, hi)
  | none => (minL (ts.map (fun t => σ.start t.name)), minL (ts.map (fun t => σ.start t.name)) + len)

def grpValOf (σ : Sched) : CBody → Int × Int
  | .unorderedGroup ts w len => grpVal σ ts w len
  | .orderedGroup ts w len _ => grpVal σ ts w len
  | _ => (0, 0)

/-- ρ with the helper variables of the problem's groups set for schedule σ -/
def withGroups (st : State) (σ : Sched) (ρ : Env) : Env :=
  { ρ with i := fun v => match v with
      | .grpS c => (match st.groups.find? (fun k => k.id == c) with
          | some k => (grpValOf σ k.body).1
          | none => ρ.i v)
      | .grpE c => (match st.groups.find? (fun k => k.id == c) with
          | some k => (grpValOf σ k.body).2
          | none => ρ.i v)
      | _ => ρ.i v }

theorem withGroups_agree (st : State) (σ : Sched) (ρ : Env) : Env.AgreeOn notGrp ρ (withGroups st σ ρ) :=
  Env.AgreeOn.update_i _ _ fun v hv => by
    cases v <;> first | rfl | (simp [notGrp] at hv)

theorem group_sound (ρ : Env) (ts : List Task) (window : Option (Int × Int)) (len : Int)
    (h : GroupWindowOK ρ ts window len) : GroupMeaningS (schedOf ρ) ts window len := by
  unfold GroupWindowOK at h
  unfold GroupMeaningS
  rcases window with _ | ⟨lo, hi⟩
  · exact fun t ht t' ht' _ _ => h t ht t' ht'
  · exact fun t ht _ => h t ht

theorem consec_sound (k : OrdKind) (ρ : Env) : ∀ ts : List Task, ConsecutiveOK k ρ ts → ConsecS k (schedOf ρ) ts
  | [], _ | [_], _ => trivial
  | _ :: b :: rest, h => ⟨fun _ _ => h.1, consec_sound k ρ (b :: rest) h.2⟩

theorem groupBase_complete (c : Nat) (σ : Sched) (ρ : Env) (ts : List Task) (window : Option (Int × Int)) (len : Int)
    (hgS : ρ.i (.grpS c) = (grpVal σ ts window len).1) (hgE : ρ.i (.grpE c) = (grpVal σ ts window len).2)
    (hts : ∀ t ∈ ts, ρ.i (.tStart t.name) = σ.start t.name ∧ ρ.i (.tEnd t.name) = σ.end_ t.name ∧ σ.isSched t = true)
    (hm : GroupMeaningS σ ts window len) : Sat ρ (groupBase c ts window len) := by
  unfold groupBase
  unfold GroupMeaningS at hm
  rcases window with _ | ⟨lo, hi⟩ <;> simp only [grpVal] at hgS hgE <;> simp only [sem, hgS, hgE, Int.le_refl] <;>
    intro t ht <;> obtain ⟨h1, h2, h3⟩ := hts t ht <;> rw [h1, h2]
  · -- the earliest start is the start of some member
    obtain ⟨t', ht', he⟩ := List.mem_map.1 (minL_mem (ts.map fun t => σ.start t.name)
      (List.ne_nil_of_mem (List.mem_map_of_mem ht)))
    have := hm t ht t' ht' h3 (hts t' ht').2.2
    exact ⟨minL_le _ _ (List.mem_map_of_mem ht), by rw [← he]; omega⟩
  · exact hm t ht h3

theorem consecutive_complete (k : OrdKind) (σ : Sched) (ρ : Env) :
    ∀ ts : List Task,
      (∀ t ∈ ts, ρ.i (.tStart t.name) = σ.start t.name ∧ ρ.i (.tEnd t.name) = σ.end_ t.name ∧ σ.isSched t = true) →
      ConsecS k σ ts → Sat ρ (consecutive k ts)
  | [], _, _ => Sat.nil
  | [_], _, _ => Sat.nil
  | a :: b :: rest, hts, hm => by
      have ha := hts a (.head _)
      have hb := hts b (.tail _ (.head _))
      rw [consecutive, Sat.cons, ordRel_eval]
      simp only [sem, ha.2.1, hb.1]
      exact ⟨hm.1 ha.2.2 hb.2.2,
        consecutive_complete k σ ρ (b :: rest) (fun t ht => hts t (List.mem_cons_of_mem _ ht)) hm.2⟩

theorem isGroup_operand {c : Constr} (hg : c.isGroup = true) : c.operand = false := by
  unfold Constr.isGroup at hg
  simp only [Bool.and_eq_true, Bool.not_eq_true'] at hg
  exact hg.1

theorem isGroup_body {c : Constr} (hg : c.isGroup = true) :
    (∃ ts w len, c.body = .unorderedGroup ts w len) ∨ (∃ ts w len k, c.body = .orderedGroup ts w len k) := by
  unfold Constr.isGroup at hg
  split at hg
  next hb => exact .inl ⟨_, _, _, hb⟩
  next hb => exact .inr ⟨_, _, _, _, hb⟩
  next => simp only [Bool.and_false, Bool.false_eq_true] at hg

theorem isGroup_asserts {c : Constr} (hg : c.isGroup = true) (ρ : Env) :
    Sat ρ c.asserts ↔ ((c.optional = true → ρ.b (.applied c.id) = true) → Sat ρ (c.body.raw c.id)) :=
  c.asserts_sat (fun _ => by rcases isGroup_body hg with ⟨_, _, _, hb⟩ | ⟨_, _, _, _, hb⟩ <;> rw [hb] <;> rfl) ρ

theorem Sat_initFmls_groups (cfg : Config) (st : State) (hb : st.buffers = []) (ρ : Env) :
    Sat ρ (initFmls cfg st) ↔
      Sat ρ (initFmls cfg st.noGroups) ∧ ∀ c ∈ st.constrs, c.isGroup = true → Sat ρ c.asserts := by
  have hb' : st.noGroups.buffers = [] := hb
  simp only [Sat_initFmls_iff, hb, hb', List.not_mem_nil, false_imp_iff, implies_true, true_and]
  simp only [State.noGroups, List.mem_filter, Bool.not_eq_true', and_imp]
  constructor
  · rintro ⟨h1, h2, h3, h4⟩
    exact ⟨⟨h1, h2, fun c hc _ hop => h3 c hc hop, h4⟩, fun c hc hg => h3 c hc (isGroup_operand hg)⟩
  · rintro ⟨⟨h1, h2, h3, h4⟩, hG⟩
    refine ⟨h1, h2, fun c hc hop => ?_, h4⟩
    cases hg : c.isGroup
    · exact h3 c hc hg hop
    · exact hG c hc hg

theorem Valid_groups (st : State) (σ : Sched) :
    Valid st σ ↔ Valid st.noGroups σ ∧
      ∀ c ∈ st.constrs, c.isGroup = true → (c.optional = true → σ.applied c.id = true) → CoreMeaning st σ c.body := by
  have hcm : ∀ b, CoreMeaning st.noGroups σ b ↔ CoreMeaning st σ b := CoreMeaning_env rfl
  constructor
  · intro hv
    exact ⟨⟨hv.horizon_nonneg, hv.horizon_le, hv.tasks, hv.dyn, hv.counts, hv.no_overlap, hv.work,
      fun c hc hop happ => (hcm c.body).2 (hv.constrs c (List.mem_filter.1 hc).1 hop happ)⟩,
      fun c hc hg => hv.constrs c hc (isGroup_operand hg)⟩
  · rintro ⟨hv, hG⟩
    refine ⟨hv.horizon_nonneg, hv.horizon_le, hv.tasks, hv.dyn, hv.counts, hv.no_overlap, hv.work, fun c hc hop happ => ?_⟩
    cases hg : c.isGroup
    · exact (hcm c.body).1 (hv.constrs c (List.mem_filter.2 ⟨hc, by rw [hg]; rfl⟩) hop happ)
    · exact hG c hc hg happ

theorem C05_sound_groups (cfg : Config) (st : State) (ρ : Env) (hc : InCoreS st.noGroups)
    (hρ : Sat ρ (initFmls cfg st)) (hH : 0 ≤ ρ.i .horizon) : Valid st (schedOf ρ) := by
  obtain ⟨h0, hG⟩ := (Sat_initFmls_groups cfg st hc.no_buffers ρ).1 hρ
  refine (Valid_groups st _).2 ⟨C05_sound_core cfg st.noGroups ρ hc h0 hH, fun c hcm hg happ => ?_⟩
  -- a group: what its assertions say of the task times of ρ (`C03_raw_sound`), read on the schedule
  have hT := C03_raw_sound c.id c.body ρ ((isGroup_asserts hg ρ).1 (hG c hcm hg) happ)
  rcases isGroup_body hg with ⟨ts, w, len, hb⟩ | ⟨ts, w, len, k, hb⟩ <;> rw [hb] at hT ⊢
  · exact group_sound ρ ts w len hT
  · exact ⟨group_sound ρ ts w len hT.1, consec_sound k ρ ts hT.2⟩

theorem C05_complete_groups (cfg : Config) (st : State) (σ : Sched) (hc : InCoreS st.noGroups)
    (hok : st.groupsOK = true) (hf : st.freshGroups = true) (hv : Valid st σ) :
    Sat (withGroups st σ (envOf st σ)) (initFmls cfg st) := by
  obtain ⟨hf, _⟩ := Bool.and_eq_true_iff.1 hf
  unfold State.groupsOK at hok
  simp only [Bool.and_eq_true, decide_eq_true_eq] at hok
  obtain ⟨hv0, hG⟩ := (Valid_groups st σ).1 hv
  refine (Sat_initFmls_groups cfg st hc.no_buffers _).2 ⟨?_, fun c hcm hg => ?_⟩
  · -- the problem without its groups: its assertions do not mention the helpers
    rw [C15_single_objective cfg cfgP _ hc.single_objective]
    exact (Sat.congr (withGroups_agree st σ _) hf).1 (C05_complete_core cfgP st.noGroups σ hc.inCore hv0)
  -- a group: its helpers hold the window, or the earliest start and that start plus `len`
  refine (isGroup_asserts hg _).2 fun happ => ?_
  have hcg : c ∈ st.groups := List.mem_filter.2 ⟨hcm, hg⟩
  have hfind := find?_key (fun k : Constr => k.id) st.groups hok.1 c hcg
  have hgS : (withGroups st σ (envOf st σ)).i (.grpS c.id) = (grpValOf σ c.body).1 := by simp only [withGroups, hfind]
  have hgE : (withGroups st σ (envOf st σ)).i (.grpE c.id) = (grpValOf σ c.body).2 := by simp only [withGroups, hfind]
  have hts : ∀ t ∈ c.body.groupTasks,
      (withGroups st σ (envOf st σ)).i (.tStart t.name) = σ.start t.name ∧
      (withGroups st σ (envOf st σ)).i (.tEnd t.name) = σ.end_ t.name ∧ σ.isSched t = true := by
    intro t ht
    have := List.all_eq_true.1 (List.all_eq_true.1 hok.2 c hcg) t ht
    simp only [Bool.and_eq_true, Bool.not_eq_true', beq_iff_eq] at this
    have hs := σ.isSched_of_mandatory this.1
    exact ⟨envOf_tStart_sched this.2 hs, envOf_tEnd_sched this.2 hs, hs⟩
  have hmean := hG c hcm hg happ
  rcases isGroup_body hg with ⟨ts, w, len, hb⟩ | ⟨ts, w, len, k, hb⟩ <;> rw [hb] at hgS hgE hts hmean ⊢ <;>
    simp only [CBody.raw, sem]
  · exact groupBase_complete c.id σ _ ts w len hgS hgE hts hmean
  · exact ⟨groupBase_complete c.id σ _ ts w len hgS hgE hts hmean.1, consecutive_complete k σ _ ts hts hmean.2⟩

theorem exact_groups (cfg : Config) {st : State} (hc : InCoreS st.noGroups) (hok : st.groupsOK = true)
    (hf : st.freshGroups = true) :
    Exact (initFmls cfg st) (Valid st) (fun σ => withGroups st σ (envOf st σ)) :=
  ⟨fun ρ => C05_sound_groups cfg st ρ hc, fun σ => C05_complete_groups cfg st σ hc hok hf, fun _ hv => hv.horizon_nonneg⟩

/-- **C05 (exactness with task groups).** The constraint system `initialize` builds has a model with a non-negative
    horizon iff the problem — groups included — has a valid schedule. -/
theorem C05_feasible_iff_groups (cfg : Config) (st : State) (hc : InCoreS st.noGroups)
    (hok : st.groupsOK = true) (hf : st.freshGroups = true) :
    (∃ ρ, Sat ρ (initFmls cfg st) ∧ 0 ≤ ρ.i .horizon) ↔ ∃ σ, Valid st σ :=
  (exact_groups cfg hc hok hf).feasible_iff

/-- **C07 (attainable indicator values, with groups).** An integer is the value of a declared indicator in some
    admitted interpretation iff it is its value on some valid schedule of the whole problem. -/
theorem C07_groups_attainable (cfg : Config) (st : State) (hc : InCoreS st.noGroups)
    (hok : st.groupsOK = true) (hf : st.freshGroups = true) (ind : Indicator) (hi : ind ∈ st.indicators) (k : Int) :
    (∃ ρ, Sat ρ (initFmls cfg st) ∧ 0 ≤ ρ.i .horizon ∧ ρ.i ind.var = k) ↔
    (∃ σ, Valid st σ ∧ (envOf st σ).i ind.var = k) :=
  (exact_groups cfg hc hok hf).attainable (·.i ind.var) (fun σ => (envOf st σ).i ind.var)
    (fun ρ hρ => (agree_own2 cfg st.noGroups ρ ((Sat_initFmls_groups cfg st hc.no_buffers ρ).1 hρ).1 hc).i _
      (ownI2_indicator hi))
    (fun σ _ => ((withGroups_agree st σ _).i _ (List.all_eq_true.1 (Bool.and_eq_true_iff.1 hf).2 ind hi)).symm) k

/-- the verdict does not depend on the configuration, groups included: with at most one objective the assertions do
    not -/
theorem C15_groups_verdict_cfg_free (cfg cfg' : Config) (st : State) (hc : InCoreS st.noGroups)
    (hok : st.groupsOK = true) (hf : st.freshGroups = true) :
    (∃ ρ, Sat ρ (initFmls cfg st) ∧ 0 ≤ ρ.i .horizon) ↔ (∃ ρ, Sat ρ (initFmls cfg' st) ∧ 0 ≤ ρ.i .horizon) := by
  rw [C15_single_objective cfg cfg' st hc.single_objective]

/-- the executable test is sufficient for the theorems above -/
theorem fragmentGroupsB_sound {st : State} (hr : Reachable st) (h : st.fragmentGroupsB = true) :
    InCoreS st.noGroups ∧ st.groupsOK = true ∧ st.freshGroups = true := by
  unfold State.fragmentGroupsB at h
  simp only [Bool.and_eq_true] at h
  have w := reachable_wf st hr  -- `WFInv` reads the tasks and the log only, which `noGroups` keeps
  exact ⟨fragmentB_sound_wf ⟨w.1, w.2, w.3⟩ h.1.1, h.1.2, h.2⟩

/-- **C05 (exactness with task groups and any number of objectives).** The two conservative extensions compose: the
    helpers of the groups and the two variables of the weighted combination are set one after the other. -/
theorem C05_feasible_iff_groups_multi (cfg : Config) (st : State) (hc : InCoreS st.noObj.noGroups)
    (hok : st.noObj.groupsOK = true) (hfg : st.noObj.freshGroups = true) (hfe : st.freshEquiv = true) :
    (∃ ρ, Sat ρ (initFmls cfg st) ∧ 0 ≤ ρ.i .horizon) ↔ ∃ σ, Valid st σ :=
  ((exact_groups cfgP hc hok hfg).multi cfg hfe).feasible_iff

theorem fragmentGroupsMultiB_sound {st : State} (hr : Reachable st) (h : st.fragmentGroupsMultiB = true) :
    InCoreS st.noObj.noGroups ∧ st.noObj.groupsOK = true ∧ st.noObj.freshGroups = true ∧ st.freshEquiv = true := by
  unfold State.fragmentGroupsMultiB State.fragmentGroupsB at h
  simp only [Bool.and_eq_true] at h
  have w := reachable_wf st hr  -- `WFInv` reads the tasks and the log only, which `noGroups` keeps
  exact ⟨fragmentB_sound_wf ⟨w.1, w.2, w.3⟩ h.1.1.1, h.1.1.2, h.1.2, h.2⟩

/-- **C14 (declaration order, with groups).** Two problems with task groups whose valid schedules coincide — two
    declaration orders of one problem — get the same verdict from the encoder, whatever the configurations. -/
theorem C14_groups_verdict (cfg cfg' : Config) (st st' : State)
    (hc : InCoreS st.noGroups) (hok : st.groupsOK = true) (hf : st.freshGroups = true)
    (hc' : InCoreS st'.noGroups) (hok' : st'.groupsOK = true) (hf' : st'.freshGroups = true)
    (hsame : ∀ σ, Valid st σ ↔ Valid st' σ) :
    (∃ ρ, Sat ρ (initFmls cfg st) ∧ 0 ≤ ρ.i .horizon) ↔ (∃ ρ, Sat ρ (initFmls cfg' st') ∧ 0 ≤ ρ.i .horizon) :=
  (exact_groups cfg hc hok hf).verdict_congr (exact_groups cfg' hc' hok' hf') hsame

/-! ### non-vacuity: a problem with an ordered group without a window and an optional unordered group with one -/

def Groups_exState : State :=
  run [.problem "p" (some 14),
       .task "A" (.fixed 3) false 1 none none true 1,
       .task "B" (.var 1 (some 4) none) false 0 none none true 1,
       .task "C" (.fixed 2) false 0 none none true 1,
       .task "D" (.fixed 1) true 0 none none true 1,
       .worker "W" 1 (.const 0),
       .require "A" (.worker "W") false 0 0,
       .require "B" (.worker "W") false 0 0,
       .constr none false (.orderedGroup ["A", "B", "C"] none 9 .lax),
       .constr none true (.unorderedGroup ["B", "C"] (some (2, 11)) 0),
       .constr none false (.startAfter "C" 6 false),
       .objective (.flowtime none)]

def Groups_exSched : Sched :=
  { sched := fun _ => false
    start := fun n => if n = "A" then 0 else if n = "B" then 3 else if n = "C" then 6 else 0
    end_ := fun n => if n = "A" then 3 else if n = "B" then 5 else if n = "C" then 8 else 0
    dur := fun n => if n = "A" then 3 else if n = "B" then 2 else if n = "C" then 2 else 0
    sel := fun _ _ => false
    applied := fun _ => true
    dynS := fun _ _ => 0
    dynE := fun _ _ => 0
    horizon := 8 }

/-- in one kernel evaluation of the script: the example passes the test of this file and not the one of `Exact.lean`,
    has the elements declared above, and the witness of `Groups_exSched` with the helpers set by `withGroups`
    satisfies its (quantifier-free) assertions -/
theorem Groups_ex_tests :
    Groups_exState.fragmentGroupsB = true ∧ Groups_exState.fragmentB = false ∧
    (Groups_exState.constrs.length = 3 ∧ Groups_exState.groups.length = 2 ∧ Groups_exState.tasks.length = 4) ∧
    (initFmls {} Groups_exState).all (fun a => a.qf &&
      a.evalB (withGroups Groups_exState Groups_exSched (envOf Groups_exState Groups_exSched))) = true := by
  decide +kernel

example : Groups_exState.constrs.length = 3 ∧ Groups_exState.groups.length = 2 ∧ Groups_exState.tasks.length = 4 :=
  Groups_ex_tests.2.2.1

theorem Groups_ex_fragment : Groups_exState.fragmentGroupsB = true := Groups_ex_tests.1

/-- the problem with its groups is *not* in the fragment of `Exact.lean`: this file is what covers it -/
example : Groups_exState.fragmentB = false := Groups_ex_tests.2.1

example : (∃ ρ, Sat ρ (initFmls {} Groups_exState) ∧ 0 ≤ ρ.i .horizon) ↔ ∃ σ, Valid Groups_exState σ :=
  have h := fragmentGroupsB_sound ⟨_, rfl⟩ Groups_ex_fragment
  C05_feasible_iff_groups {} Groups_exState h.1 h.2.1 h.2.2

/-- a concrete admitted interpretation … -/
theorem Groups_ex_model :
    Sat (withGroups Groups_exState Groups_exSched (envOf Groups_exState Groups_exSched)) (initFmls {} Groups_exState) :=
  Sat.of_evalB _ _ Groups_ex_tests.2.2.2

/-- … and the schedule read off it is valid, groups included — by the theorem -/
example : Valid Groups_exState
    (schedOf (withGroups Groups_exState Groups_exSched (envOf Groups_exState Groups_exSched))) :=
  have h := fragmentGroupsB_sound ⟨_, rfl⟩ Groups_ex_fragment
  C05_sound_groups {} Groups_exState _ h.1 Groups_ex_model (by decide +kernel)

/-- non-vacuity of `C05_feasible_iff_groups_multi`: a group and two objectives -/
def GroupsMulti_exState : State :=
  run [.problem "p" (some 14),
       .task "A" (.fixed 3) false 1 (some 1) (some 9) true 1,
       .task "B" (.var 1 (some 4) none) false 0 none none true 1,
       .task "C" (.fixed 2) false 0 none none true 1,
       .worker "W" 1 (.const 0),
       .require "A" (.worker "W") false 0 0,
       .require "B" (.worker "W") false 0 0,
       .constr none false (.orderedGroup ["A", "B", "C"] none 9 .lax),
       .indicator (.tardiness (some ["A"])),
       .objective (.flowtime none),
       .objective (.minimizeIndicator 0 3)]

example : GroupsMulti_exState.groups.length = 1 ∧ GroupsMulti_exState.objectives.length = 2 := by decide +kernel

theorem GroupsMulti_ex_fragment : GroupsMulti_exState.fragmentGroupsMultiB = true := by decide +kernel

example : (∃ ρ, Sat ρ (initFmls {} GroupsMulti_exState) ∧ 0 ≤ ρ.i .horizon) ↔ ∃ σ, Valid GroupsMulti_exState σ :=
  have h := fragmentGroupsMultiB_sound ⟨_, rfl⟩ GroupsMulti_ex_fragment
  C05_feasible_iff_groups_multi {} GroupsMulti_exState h.1 h.2.1 h.2.2.1 h.2.2.2

end PS
