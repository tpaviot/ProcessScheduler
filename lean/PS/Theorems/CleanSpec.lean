/-
  The specification `Valid` without the encoding's parking instants.

  `Valid.no_overlap` is stated on *every* entry of a worker's busy dictionary under the witness interpretation,
  parked intervals of unscheduled tasks and unselected workers included, so a reader has to trust that parked
  intervals never get in the way.  Here the clause is restated on the *real* intervals only —

      two different scheduled tasks that both really use a worker (required directly, or selected) have disjoint
      busy intervals on it                                                                  (`RealNoOverlap`)

  — and proved **equivalent** to the original (`Valid_iff_clean`) for problems of the fragment.  Under `envOf st σ`
  every entry of a busy dictionary holds the interval `busyOfReq σ t r` of a requirement of a declared task
  (`busy_entry`).  Either the requirement really occupies the worker (`Sched.active`) and the interval is `realBusy`,
  or the interval is parked: it ends before time 0 and is empty or inverted (`busyOfReq_parked`), so it overlaps
  nothing that starts at a non-negative instant or is empty or inverted itself (`busyOfReq_shape`).  The statements
  carry the hypothesis that delays stay below the task number (`DelaysBelowNumber`, the region of the recorded defect
  F19: a delayed requirement of an unscheduled optional task gets a busy interval that *starts* at a non-negative
  instant); the proofs do not use it, since such an interval still ends before time 0.
-/
import PS.Theorems.Exact
namespace PS

/-- the requirement really occupies its worker: the task is scheduled and, through a selection, the worker selected -/
def Sched.active (σ : Sched) (t : Task) (r : Req) : Bool :=
  σ.isSched t && (match r.sel with | some s => σ.sel s r.worker | none => true)

/-- the interval a really occupied worker is busy: the task span (selection), the joined span (dynamic), the span
    shortened by the declared delays (static) -/
def realBusy (σ : Sched) (t : Task) (r : Req) : Int × Int :=
  match r.sel with
  | some _ => (σ.start t.name, σ.end_ t.name)
  | none =>
      if r.dynamic then (σ.dynS r.worker t.name, σ.dynE r.worker t.name)
      else (σ.start t.name + max 0 r.delayIn, σ.end_ t.name - max 0 r.earlyOut)

theorem Sched.isSched_of_active {σ : Sched} {t : Task} {r : Req} (h : σ.active t r = true) : σ.isSched t = true :=
  (Bool.and_eq_true_iff.1 h).1

theorem busyOfReq_active (σ : Sched) (t : Task) (r : Req) (h : σ.active t r = true) :
    busyOfReq σ t r = realBusy σ t r := by
  unfold Sched.active at h
  simp only [Bool.and_eq_true] at h
  unfold busyOfReq realBusy tStartOf tEndOf
  cases hs : r.sel with
  | some s => simp only [hs] at h; simp [h.1, h.2]
  | none => simp [h.1]

/-- a requirement that does not really occupy its worker gives it an empty or inverted interval that ends before
    time 0 — and starts before time 0 if the delay stays below the task number (finding F19 otherwise) -/
theorem busyOfReq_parked (σ : Sched) (t : Task) (r : Req) (h : σ.active t r = false) :
    (busyOfReq σ t r).2 ≤ (busyOfReq σ t r).1 ∧ (busyOfReq σ t r).2 < 0 ∧
      (r.delayIn ≤ t.num0 → (busyOfReq σ t r).1 < 0) := by
  unfold Sched.active at h
  unfold busyOfReq tStartOf tEndOf
  cases hsel : r.sel with
  | none =>
      -- not through a selection: the task is unscheduled
      have hs : σ.isSched t = false := by simpa [hsel] using h
      simp only [hs, Bool.false_eq_true, if_false, Task.pastPoint]
      split <;> omega
  | some s =>
      simp only [hsel] at h ⊢
      cases hb : σ.sel s r.worker
      · simp only [Bool.false_eq_true, if_false, Req.past]; omega
      · have hs : σ.isSched t = false := by simpa [hb] using h
        simp only [hs, if_true, Bool.false_eq_true, if_false, Task.pastPoint]; omega

/-- `busyOfReq_parked` for an unscheduled task whose delay-in stays below the task number (finding F19 otherwise) -/
theorem busyOfReq_unscheduled (σ : Sched) (t : Task) (r : Req) (hs : σ.isSched t = false) (hdel : r.delayIn ≤ t.num0) :
    (busyOfReq σ t r).2 ≤ (busyOfReq σ t r).1 ∧ (busyOfReq σ t r).2 < 0 ∧ (busyOfReq σ t r).1 < 0 :=
  have h := busyOfReq_parked σ t r (by unfold Sched.active; rw [hs]; rfl)
  ⟨h.1, h.2.1, h.2.2 hdel⟩

/-- the first two clauses of `busyOfReq_parked`, which hold whatever the delay (`hdel` is not used) -/
theorem busyOfReq_inactive (σ : Sched) (t : Task) (r : Req) (h : σ.active t r = false) (hdel : r.delayIn ≤ t.num0) :
    (busyOfReq σ t r).2 ≤ (busyOfReq σ t r).1 ∧ (busyOfReq σ t r).2 < 0 :=
  ⟨(busyOfReq_parked σ t r h).1, (busyOfReq_parked σ t r h).2.1⟩

theorem busyOfReq_shape (σ : Sched) (t : Task) (r : Req)
    (hstart : σ.isSched t = true → 0 ≤ σ.start t.name)
    (hdyn : r.sel = none → r.dynamic = true → σ.isSched t = true → DynValid σ t r) :
    0 ≤ (busyOfReq σ t r).1 ∨ (busyOfReq σ t r).2 ≤ (busyOfReq σ t r).1 := by
  cases ha : σ.active t r
  · exact Or.inr (busyOfReq_parked σ t r ha).1
  · -- really busy: no earlier than the start of its scheduled task
    left
    rw [busyOfReq_active σ t r ha]
    have hs := σ.isSched_of_active ha
    have h0 := hstart hs
    unfold realBusy
    cases hsel : r.sel with
    | some s => exact h0
    | none =>
        by_cases hd : r.dynamic = true
        · have := hdyn hsel hd hs
          unfold DynValid at this
          simp only [hd, if_true]; omega
        · simp only [hd, Bool.false_eq_true, if_false]; omega

theorem busy_entry (st : State) (σ : Sched) (hc : InCoreS st) (w : String) (e : String × Bool)
    (he : e ∈ st.busyOf w) :
    ∃ t ∈ st.tasks, ∃ r ∈ st.reqsOf t.name, t.name = e.1 ∧ r.worker = w ∧
      (envOf st σ).i (.busyS w e.1 e.2) = (busyOfReq σ t r).1 ∧ (envOf st σ).i (.busyE w e.1 e.2) = (busyOfReq σ t r).2 := by
  obtain ⟨ev, hev, r, hr, rfl, h2, _⟩ := busyOf_mem st _ e he
  obtain ⟨t, ht, hn, hev'⟩ := logged_event_task hc.req_tasks hev
  have hrr : r ∈ st.reqsOf t.name := State.mem_reqsOf.2 ⟨ev, hev', hr⟩
  refine ⟨t, ht, r, hrr, hn.trans h2, rfl, ?_⟩
  rw [← h2, ← hn]
  exact envOf_busy st σ t r e.2 (hc.names t ht) (hc.reqs t ht r hrr)

theorem pairwise_disjoint2_iff (ρ : Env) (w : String) (l : List (String × Bool)) (hk : (l.map (·.1)).Nodup) :
    l.Pairwise (Disjoint2 ρ w) ↔ ∀ a ∈ l, ∀ b ∈ l, a.1 ≠ b.1 → Disjoint2 ρ w a b := by
  constructor
  · intro hp a ha b hb
    have h1 : l.Pairwise (fun a b => a.1 ≠ b.1 → Disjoint2 ρ w a b) :=
      hp.imp (S := fun a b => a.1 ≠ b.1 → Disjoint2 ρ w a b) fun h _ => h
    have h2 : l.Pairwise (fun a b => b.1 ≠ a.1 → Disjoint2 ρ w b a) :=
      hp.imp (S := fun a b => b.1 ≠ a.1 → Disjoint2 ρ w b a) fun h _ => Or.symm h
    exact List.Pairwise.forall_of_forall_of_flip (fun _ _ h => absurd rfl h) h1 h2 ha hb
  · intro h
    -- two entries under one key are both the entry the lookup of that key finds
    exact (List.Nodup.of_map _ hk).pairwise_of_forall_ne fun a ha b hb hab =>
      h a ha b hb fun hk' => hab (Option.some.inj
        ((find?_key Prod.fst l hk a ha).symm.trans (hk' ▸ find?_key Prod.fst l hk b hb)))

/-- no worker is really busy with two different scheduled tasks at overlapping times -/
def RealNoOverlap (st : State) (σ : Sched) : Prop :=
  ∀ w ∈ st.workers, ∀ t1 ∈ st.tasks, ∀ t2 ∈ st.tasks, t1.name ≠ t2.name →
    ∀ r1 ∈ st.reqsOf t1.name, ∀ r2 ∈ st.reqsOf t2.name, r1.worker = w.name → r2.worker = w.name →
      σ.active t1 r1 = true → σ.active t2 r2 = true →
        (realBusy σ t1 r1).2 ≤ (realBusy σ t2 r2).1 ∨ (realBusy σ t2 r2).2 ≤ (realBusy σ t1 r1).1

/-- `Valid` with the non-overlap clause stated on real intervals only -/
structure ValidClean (st : State) (σ : Sched) : Prop where
  horizon_nonneg : 0 ≤ σ.horizon
  horizon_le : ∀ H, st.horizon = some H → σ.horizon ≤ H
  tasks : ∀ t ∈ st.tasks, σ.isSched t = true → TaskValid σ t
  dyn : ∀ t ∈ st.tasks, ∀ r ∈ st.reqsOf t.name, r.sel = none → r.dynamic = true → σ.isSched t = true → DynValid σ t r
  counts : ∀ t ∈ st.tasks, ∀ s rs, ReqEvent.viaSelect t.name s rs true ∈ st.eventsOf t.name →
    CountOK s.kind (σ.nSelected s) s.n
  no_overlap : RealNoOverlap st σ
  work : ∀ t ∈ st.tasks, 0 < t.work → workTerms st t ≠ [] → σ.isSched t = true →
    t.work ≤ Term.evalSum (envOf st σ) (workTerms st t)
  constrs : ∀ c ∈ st.constrs, c.operand = false → (c.optional = true → σ.applied c.id = true) → CoreMeaning st σ c.body

/-- the delays of every requirement stay below the task number (what finding F19 violates) -/
def DelaysBelowNumber (st : State) : Prop := ∀ t ∈ st.tasks, ∀ r ∈ st.reqsOf t.name, r.delayIn ≤ t.num0

/-- the two non-overlap clauses say the same, given the rest of a valid schedule -/
theorem realNoOverlap_iff (st : State) (σ : Sched) (hc : InCoreS st)
    (htasks : ∀ t ∈ st.tasks, σ.isSched t = true → TaskValid σ t)
    (hdyn : ∀ t ∈ st.tasks, ∀ r ∈ st.reqsOf t.name, r.sel = none → r.dynamic = true → σ.isSched t = true → DynValid σ t r) :
    RealNoOverlap st σ ↔ ∀ w ∈ st.workers, (st.busyOf w.name).Pairwise (Disjoint2 (envOf st σ) w.name) := by
  -- both clauses are about any two entries of a worker's dictionary under different tasks
  refine forall₂_congr fun w _ => ?_
  rw [pairwise_disjoint2_iff _ _ _ (busyOf_keys_nodup st w.name)]
  constructor
  · intro h a ha b hb hk
    obtain ⟨t1, ht1, r1, hr1, hn1, hw1, s1, e1⟩ := busy_entry st σ hc w.name a ha
    obtain ⟨t2, ht2, r2, hr2, hn2, hw2, s2, e2⟩ := busy_entry st σ hc w.name b hb
    unfold Disjoint2
    rw [s1, e1, s2, e2]
    -- a parked interval overlaps nothing that starts at a non-negative instant or is empty / inverted
    have sh1 := busyOfReq_shape σ t1 r1 (fun hs => (htasks t1 ht1 hs).start_nonneg) (hdyn t1 ht1 r1 hr1)
    have sh2 := busyOfReq_shape σ t2 r2 (fun hs => (htasks t2 ht2 hs).start_nonneg) (hdyn t2 ht2 r2 hr2)
    cases ha1 : σ.active t1 r1
    · have := busyOfReq_parked σ t1 r1 ha1; omega
    · cases ha2 : σ.active t2 r2
      · have := busyOfReq_parked σ t2 r2 ha2; omega
      · rw [busyOfReq_active σ t1 r1 ha1, busyOfReq_active σ t2 r2 ha2]
        exact h t1 ht1 t2 ht2 (hn1 ▸ hn2 ▸ hk) r1 hr1 r2 hr2 hw1 hw2 ha1 ha2
  · intro h t1 ht1 t2 ht2 hne r1 hr1 r2 hr2 hw1 hw2 ha1 ha2
    obtain ⟨m1, he1⟩ := (busyOf_keys st w.name t1.name).2 ⟨r1, hr1, hw1⟩
    obtain ⟨m2, he2⟩ := (busyOf_keys st w.name t2.name).2 ⟨r2, hr2, hw2⟩
    have hd := h _ he1 _ he2 hne
    have v1 := envOf_busy st σ t1 r1 m1 (hc.names t1 ht1) (hc.reqs t1 ht1 r1 hr1)
    have v2 := envOf_busy st σ t2 r2 m2 (hc.names t2 ht2) (hc.reqs t2 ht2 r2 hr2)
    unfold Disjoint2 at hd
    rw [hw1] at v1; rw [hw2] at v2
    rw [v1.1, v1.2, v2.1, v2.2, busyOfReq_active σ t1 r1 ha1, busyOfReq_active σ t2 r2 ha2] at hd
    exact hd

/-- `realNoOverlap_iff` from right to left; it holds whatever the delays (`hdel` is not used) -/
theorem no_overlap_iff_real (st : State) (σ : Sched) (hc : InCoreS st) (hdel : DelaysBelowNumber st)
    (htasks : ∀ t ∈ st.tasks, σ.isSched t = true → TaskValid σ t)
    (hdyn : ∀ t ∈ st.tasks, ∀ r ∈ st.reqsOf t.name, r.sel = none → r.dynamic = true → σ.isSched t = true → DynValid σ t r) :
    (∀ w ∈ st.workers, (st.busyOf w.name).Pairwise (Disjoint2 (envOf st σ) w.name)) ↔ RealNoOverlap st σ :=
  (realNoOverlap_iff st σ hc htasks hdyn).symm

theorem Valid.iff_clean (st : State) (σ : Sched) (hc : InCoreS st) : Valid st σ ↔ ValidClean st σ :=
  ⟨fun h => ⟨h.horizon_nonneg, h.horizon_le, h.tasks, h.dyn, h.counts,
      (realNoOverlap_iff st σ hc h.tasks h.dyn).2 h.no_overlap, h.work, h.constrs⟩,
   fun h => ⟨h.horizon_nonneg, h.horizon_le, h.tasks, h.dyn, h.counts,
      (realNoOverlap_iff st σ hc h.tasks h.dyn).1 h.no_overlap, h.work, h.constrs⟩⟩

/-- **the specification without parking instants.** On the fragment, `Valid` — the meaning the completeness, exactness
    and C06 theorems are stated against — is the same as `ValidClean`, whose non-overlap clause only speaks about the
    intervals during which a scheduled task really uses a worker.  This is `Valid.iff_clean` with the hypothesis
    `DelaysBelowNumber` (the region of finding F19) added, which the equivalence holds without. -/
theorem Valid_iff_clean (st : State) (σ : Sched) (hc : InCoreS st) (hdel : DelaysBelowNumber st) :
    Valid st σ ↔ ValidClean st σ :=
  Valid.iff_clean st σ hc

/-- productivity × real busy time of each required worker of `t` (a worker that is not selected contributes nothing) -/
def realWork (st : State) (σ : Sched) (t : Task) : List Int :=
  (st.reqsOf t.name).filterMap (fun r =>
    match st.findWorker r.worker with
    | none => none
    | some w => some (w.prod * (if σ.active t r then (realBusy σ t r).2 - (realBusy σ t r).1 else 0)))

theorem evalSum_filterMap (ρ : Env) {α} (f : α → Option Term) (g : α → Option Int) (l : List α)
    (h : ∀ x ∈ l, (f x).map (fun T => T.eval ρ) = g x) :
    Term.evalSum ρ (l.filterMap f) = (l.filterMap g).sum := by
  rw [Term.evalSum_eq_sum, List.map_filterMap, List.filterMap_congr h]

theorem workSum_real (st : State) (σ : Sched) (hc : InCoreS st) (t : Task) (ht : t ∈ st.tasks)
    (hs : σ.isSched t = true) :
    Term.evalSum (envOf st σ) (workTerms st t) = (realWork st σ t).sum := by
  unfold workTerms realWork
  apply evalSum_filterMap
  intro r hr
  cases hfw : st.findWorker r.worker with
  | none => simp
  | some w =>
      simp only [Option.map_some, Option.some.injEq]
      obtain ⟨e1, e2⟩ := envOf_busy st σ t r (st.busyFlag w.name t.name r.maybe) (hc.names t ht) (hc.reqs t ht r hr)
      rw [← (find?_beq_some hfw).2] at e1 e2
      simp only [Term.eval, numT, bE, bS, e1, e2]
      cases ha : σ.active t r
      · -- scheduled, so through a selection that did not pick the worker: parked at one instant
        unfold Sched.active at ha
        unfold busyOfReq
        cases hsel : r.sel with
        | none => simp [hs, hsel] at ha
        | some s =>
            simp only [hs, hsel, Bool.true_and] at ha
            simp [ha]
      · simp only [if_true, busyOfReq_active σ t r ha]

/-- the work-amount clause of `Valid`, on real intervals -/
theorem Valid_work_real (st : State) (σ : Sched) (hc : InCoreS st) (hv : Valid st σ) (t : Task) (ht : t ∈ st.tasks)
    (hw : 0 < t.work) (hne : workTerms st t ≠ []) (hs : σ.isSched t = true) : t.work ≤ (realWork st σ t).sum := by
  rw [← workSum_real st σ hc t ht hs]
  exact hv.work t ht hw hne hs

theorem C05_feasible_iff_clean (cfg : Config) (st : State) (hc : InCoreS st) (hdel : DelaysBelowNumber st) :
    (∃ ρ, Sat ρ (initFmls cfg st) ∧ 0 ≤ ρ.i .horizon) ↔ ∃ σ, ValidClean st σ := by
  rw [C05_feasible_iff cfg st hc]
  exact exists_congr fun σ => Valid.iff_clean st σ hc

end PS
