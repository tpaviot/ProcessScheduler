/-
  C03 — every declared task constraint holds in every returned schedule.

  `TaskMeaning ρ b` is the documented relation of constraint body `b` among the tasks it names, guarded by the scheduled
  flags of optional tasks (not for the group classes: F18).  Proved for every class, parameter value and mix of task
  types: the assertions of a constraint imply its meaning, so every mandatory non-operand task constraint, and every
  applied optional one, holds in every interpretation `initialize` admits.  Partial: ScheduleNTasksInTimeIntervals on
  its lower side only (`min`, `exact`); the upper side is not enforced by the library (F11).  The pairwise reading of
  TasksContiguous assumes starts and ends ordered alike, which a zero-length member inside another task breaks (F30).
-/
import PS.Theorems.C10
import PS.Spec.Basic
import PS.Proofs.Sort
import PS.Proofs.Rank
namespace PS

def ordHolds (k : OrdKind) (a b : Int) : Prop :=
  match k with
  | .lax => a ≤ b
  | .strict => a < b
  | .tight => a = b

@[sem] theorem ordRel_eval (k : OrdKind) (a b : Term) (ρ : Env) : (ordRel k a b).eval ρ ↔ ordHolds k (a.eval ρ) (b.eval ρ) := by
  cases k <;> exact Iff.rfl

def ConsecutiveOK (k : OrdKind) (ρ : Env) : List Task → Prop
  | a :: b :: rest => ordHolds k (a.endV ρ) (b.startV ρ) ∧ ConsecutiveOK k ρ (b :: rest)
  | _ => True

def countSched (ρ : Env) (ts : List Task) : Nat := ts.countP (fun t => ρ.b (.sched t.name))

/-- all members inside the window; without a window, from the earliest start to the latest end is at most `len` -/
def GroupWindowOK (ρ : Env) (ts : List Task) (window : Option (Int × Int)) (len : Int) : Prop :=
  match window with
  | some (lo, hi) => ∀ t ∈ ts, lo ≤ t.startV ρ ∧ t.endV ρ ≤ hi
  | none => ∀ t ∈ ts, ∀ t' ∈ ts, t.endV ρ - t'.startV ρ ≤ len

/-- ordered by start (resp. by end), the (i+1)-th start equals the i-th end whenever both are non-negative instants
    (negative instants are where unscheduled tasks are parked); the encoding also forces pairwise distinct starts and
    pairwise distinct ends -/
def ContiguousOK (ρ : Env) (ts : List Task) : Prop :=
  (ts.map (fun t => t.startV ρ)).Nodup ∧ (ts.map (fun t => t.endV ρ)).Nodup ∧
  ∀ i, i + 1 < ts.length →
    0 ≤ (sortInts (ts.map (fun t => t.endV ρ))).getD i 0 → 0 ≤ (sortInts (ts.map (fun t => t.startV ρ))).getD (i + 1) 0 →
    (sortInts (ts.map (fun t => t.startV ρ))).getD (i + 1) 0 = (sortInts (ts.map (fun t => t.endV ρ))).getD i 0

/-- the documented meaning of each task-constraint class -/
def TaskMeaning (ρ : Env) : CBody → Prop
  | .startAt t v => Scheduled ρ t → t.startV ρ = v
  | .startAfter t v strict => Scheduled ρ t → (if strict then v < t.startV ρ else v ≤ t.startV ρ)
  | .endAt t v => Scheduled ρ t → t.endV ρ = v
  | .endBefore t v strict => Scheduled ρ t → (if strict then t.endV ρ < v else t.endV ρ ≤ v)
  | .precedence b a off kind => Scheduled ρ b → Scheduled ρ a → ordHolds kind (b.endV ρ + max 0 off) (a.startV ρ)
  | .startSynced t1 t2 => Scheduled ρ t1 → Scheduled ρ t2 → t1.startV ρ = t2.startV ρ
  | .endSynced t1 t2 => Scheduled ρ t1 → Scheduled ρ t2 → t1.endV ρ = t2.endV ρ
  | .dontOverlap t1 t2 => Scheduled ρ t1 → Scheduled ρ t2 → (t1.endV ρ ≤ t2.startV ρ ∨ t2.endV ρ ≤ t1.startV ρ)
  | .unorderedGroup ts window len => GroupWindowOK ρ ts window len
  | .orderedGroup ts window len kind => GroupWindowOK ρ ts window len ∧ ConsecutiveOK kind ρ ts
  | .contiguous ts => ContiguousOK ρ ts
  | .forceSchedule t b => ρ.b (.sched t.name) = b
  | .conditionSchedule t cond => (ρ.b (.sched t.name) = true ↔ cond.eval ρ)
  | .dependency t1 t2 => (ρ.b (.sched t2.name) = true ↔ Scheduled ρ t1)
  | .forceScheduleN ts n kind =>
      (match kind with | .exact => countSched ρ ts = n | .min => n ≤ countSched ρ ts | .max => countSched ρ ts ≤ n)
  | _ => True

theorem consecutive_sat (k : OrdKind) (ρ : Env) : ∀ ts : List Task, Sat ρ (consecutive k ts) ↔ ConsecutiveOK k ρ ts
  | [] | [_] => by simp only [consecutive, ConsecutiveOK, Sat.nil]
  | a :: b :: rest => by simp only [consecutive, ConsecutiveOK, sem, consecutive_sat k ρ (b :: rest)]

theorem groupBase_sound (c : Nat) (ts : List Task) (window : Option (Int × Int)) (len : Int) (ρ : Env)
    (h : ∀ f ∈ groupBase c ts window len, f.eval ρ) : GroupWindowOK ρ ts window len := by
  replace h : Sat ρ (groupBase c ts window len) := h
  unfold GroupWindowOK
  -- every member lies between the two group variables, which the window (or the length) bounds
  rcases window with _ | ⟨lo, hi⟩ <;> simp only [groupBase, sem] at h ⊢
  · intro t ht t' ht'
    have := h.2 t ht; have := h.2 t' ht'; omega
  · intro t ht
    have := h.2 t ht; omega

/-- the classes whose assertions say exactly `TaskMeaning`, a statement on the times and scheduled flags of the tasks
    they name.  (TasksDontOverlap is not among them: its `xor` says more than the documented `∨`, finding F36; nor is
    OptionalTaskConditionSchedule, whose meaning reads a user formula.) -/
def CBody.taskExact : CBody → Bool
  | .startAt .. | .startAfter .. | .endAt .. | .endBefore .. | .precedence .. | .startSynced .. | .endSynced ..
  | .forceSchedule .. | .dependency .. | .forceScheduleN .. => true
  | _ => false

theorem CBody.raw_sat (c : Nat) (b : CBody) (hb : b.taskExact = true) (ρ : Env) : Sat ρ (b.raw c) ↔ TaskMeaning ρ b := by
  cases b <;> cases hb <;> simp only [TaskMeaning, CBody.raw, sem, apply_ite (Term.eval ρ)]
  case startAfter t v strict | endBefore t v strict =>
    cases strict <;> simp only [Bool.false_eq_true, if_false, if_true, sem]
  case precedence bt at_ off kind =>
    have hm : (if off > 0 then ρ.i (.tEnd bt.name) + off else ρ.i (.tEnd bt.name)) = ρ.i (.tEnd bt.name) + max 0 off := by
      split <;> omega
    rw [hm]
  case forceSchedule t b =>
    cases b <;> simp only [Bool.false_eq_true, if_false, if_true, sem, iff_true, iff_false, Bool.not_eq_true]
  case dependency t1 t2 =>
    unfold Scheduled
    cases ho : t1.optional <;> simp only [Bool.false_eq_true, if_false, if_true, sem, iff_true, true_or, false_or, reduceCtorEq]
    exact Iff.comm
  case forceScheduleN ts n kind => exact Iff.rfl

/-- **C03 (per class).** The raw assertions of a task constraint imply its documented meaning. -/
theorem C03_raw_sound (c : Nat) (b : CBody) (ρ : Env) (h : Sat ρ (b.raw c)) : TaskMeaning ρ b := by
  cases b <;> try exact trivial
  case contiguous ts =>
    exact gaps_sound_on ts (·.sVar) (·.eVar) _ _ ρ _ (fun e s => 0 ≤ e → 0 ≤ s → s = e)
      (fun e s hev he hs => by
        simp only [sem] at hev
        exact hev ⟨he, hs⟩) h
  case dontOverlap t1 t2 =>
    simp only [TaskMeaning, CBody.raw, sem] at h ⊢
    exact fun h1 h2 => by have := h h1 h2; omega
  case unorderedGroup ts window len =>
    simp only [CBody.raw, sem] at h
    exact groupBase_sound c ts window len ρ h
  case orderedGroup ts window len kind =>
    simp only [CBody.raw, sem] at h
    exact ⟨groupBase_sound c ts window len ρ h.1, (consecutive_sat kind ρ ts).1 h.2⟩
  case conditionSchedule t cond =>
    simp only [TaskMeaning, CBody.raw, sem] at h ⊢
    by_cases hc : cond.eval ρ
    · simpa [hc] using h.1 hc
    · simpa [hc] using h.2 hc
  all_goals exact (CBody.raw_sat c _ rfl ρ).1 h

/-- **C03.** Every mandatory task constraint of the problem holds, with its documented meaning, in every interpretation
    the constraint system admits (`TaskMeaning` says `True` of a class it has no arm for). -/
theorem C03_task_constraints (cfg : Config) (st : State) (ρ : Env) (hρ : Sat ρ (initFmls cfg st)) :
    ∀ c, Enforced st c → TaskMeaning ρ c.body :=
  fun c he => C03_raw_sound c.id _ ρ (he.sat_raw hρ)

/-- an optional task constraint binds when it is applied -/
theorem C03_optional_constraints (cfg : Config) (st : State) (ρ : Env) (hρ : Sat ρ (initFmls cfg st)) :
    ∀ c ∈ st.constrs, c.operand = false → c.optional = true → c.body.direct = false →
      ρ.b (.applied c.id) = true → TaskMeaning ρ c.body :=
  fun c hc hop _ _ happ => C03_raw_sound c.id _ ρ (hρ.init_raw hc hop (fun _ => happ))

def InsideAny (ρ : Env) (t : Task) (ivs : List (Int × Int)) : Prop :=
  ∃ iv ∈ ivs, iv.1 ≤ t.startV ρ ∧ t.endV ρ ≤ iv.2

open Classical in
noncomputable def countInside (ρ : Env) (ts : List Task) (ivs : List (Int × Int)) : Nat :=
  ts.countP (fun t => decide (InsideAny ρ t ivs))

open Classical in
/-- the Booleans `bs` of one task, one per interval: at most one is true, and a true one puts the task inside its
    interval -/
theorem inInterval_count (ρ : Env) (t : Task) (bs : List Fml) (ivs : List (Int × Int)) (hlen : bs.length = ivs.length)
    (h : Sat ρ ((bs.zip ivs).map (fun (b, iv) => inIntervalFml b t iv) ++ [Fml.atMost bs 1])) :
    Fml.count ρ bs ≤ if InsideAny ρ t ivs then 1 else 0 := by
  simp only [inIntervalFml, sem, Prod.forall] at h
  split
  · exact h.2
  · rename_i hin
    by_contra hpos
    obtain ⟨b, hb, hbe⟩ := count_pos_exists ρ bs (Nat.lt_of_not_le hpos)
    obtain ⟨j, hj, rfl⟩ := List.mem_iff_getElem.1 hb
    have hj' : j < ivs.length := hlen ▸ hj
    have := h.1 bs[j] ivs[j].1 ivs[j].2 (List.mem_iff_getElem.2 ⟨j, by simp [hj, hj'], by simp⟩) hbe
    exact hin ⟨ivs[j], List.getElem_mem _, this.1, this.2.1⟩

theorem countP_range_getD (ts : List Task) (p : Task → Bool) :
    (List.range ts.length).countP (fun i => p (ts.getD i default)) = ts.countP p := by
  have : (List.range ts.length).map (fun i => ts.getD i default) = ts :=
    List.ext_getElem (by simp) fun i h1 h2 => by simp [List.getD, h2]
  conv_rhs => rw [← this, List.countP_map]
  rfl

/-- **C03 (ScheduleNTasksInTimeIntervals, lower side).**  With kind `min` or `exact`, at least `n` tasks of the list lie
    inside one of the listed intervals, for any number of tasks and intervals, overlapping or not.  (The upper side of
    `max` / `exact` is not enforced by the library: F11.) -/
theorem C03_scheduleN_lower (c : Nat) (ts : List Task) (n : Nat) (ivs : List (Int × Int)) (kind : CountKind)
    (ρ : Env) (hk : kind ≠ .max) (h : Sat ρ ((CBody.scheduleN ts n ivs kind).raw c)) :
    n ≤ countInside ρ ts ivs := by
  simp only [CBody.raw, List.flatMap_map] at h
  rw [Sat.append, Sat_flatMap] at h
  have hpb := (pbFun_eval ..).1 (Sat.cons.1 h.2).1
  -- the count asserted over all Booleans is at most one per task that lies inside an interval
  have hcount := count_flatMap_le ρ _ (fun i => InsideAny ρ (ts.getD i default) ivs) (List.range ts.length)
    fun i hi => inInterval_count ρ (ts.getD i default) _ ivs (by simp) (h.1 i hi)
  rw [countInside, ← countP_range_getD]
  cases kind with
  | max => exact absurd rfl hk
  | min => exact Nat.le_trans hpb hcount
  | exact => exact hpb ▸ hcount

theorem C03_scheduleN_enforced (cfg : Config) (st : State) (ρ : Env) (hρ : Sat ρ (initFmls cfg st))
    (cst : Constr) (he : Enforced st cst) (ts : List Task) (n : Nat) (ivs : List (Int × Int)) (kind : CountKind)
    (hb : cst.body = .scheduleN ts n ivs kind) (hk : kind ≠ .max) : n ≤ countInside ρ ts ivs :=
  C03_scheduleN_lower cst.id ts n ivs kind ρ hk (hb ▸ he.sat_raw hρ)

def TasksComonotone (ρ : Env) (ts : List Task) : Prop :=
  ∀ x ∈ ts, ∀ y ∈ ts, x.startV ρ < y.startV ρ → x.endV ρ < y.endV ρ

/-- **C03 (TasksContiguous, pairwise).**  Whenever the listed tasks are ordered alike by start and by end, every task
    of the list that ends at a non-negative instant is followed without a gap by its immediate successor by start
    (if that one starts at a non-negative instant: negative instants are where unscheduled tasks are parked). -/
theorem ContiguousOK_pairwise (ρ : Env) (ts : List Task) (h : ContiguousOK ρ ts) (hco : TasksComonotone ρ ts) :
    ∀ a ∈ ts, ∀ b ∈ ts, a.startV ρ < b.startV ρ →
      (∀ c ∈ ts, ¬ (a.startV ρ < c.startV ρ ∧ c.startV ρ < b.startV ρ)) →
      0 ≤ a.endV ρ → 0 ≤ b.startV ρ → b.startV ρ = a.endV ρ :=
  fun a ha b hb =>
    gaps_pairwise_on ts (·.startV ρ) (·.endV ρ) (fun e s => 0 ≤ e → 0 ≤ s → s = e) h.1 h.2.1 hco h.2.2 a b ha hb

end PS
