/-
  C06, the headline claim, as a theorem on the scheduling core: a schedule that leaves an optional task unscheduled is
  valid for the problem iff it is valid for the problem *without* that task (its requirements and the constraints
  naming it removed) — provided the constraints naming it let it be unscheduled.

  `State.dropTask st n` is the smaller problem.  Away from `n` its lookups, busy dictionaries (`busyOf_dropTask`) and
  work terms are those of the full problem, so the two witness interpretations agree on its own variables
  (`envOf_dropTask_agree`), and what `Valid` reads of them it reads alike in both problems (`Own.lean`).
  (⇒) `C06_absent_restrict`: removing a task only removes demands.  (⇐) `C06_absent_extend`: on real intervals
  (`CleanSpec.lean`) an unscheduled task does not appear.  Through the exactness theorems the same holds of what the
  encoder admits (`C06_absent_models_restrict`, `C06_absent_models_extend`).
-/
import PS.Theorems.CleanSpec
namespace PS

/-- the problem without task `n`: the task, its `add_required_resource` calls and every constraint that mentions it
    are removed (ids and task numbers stay: the documented meaning does not read them) -/
def State.dropTask (st : State) (n : String) : State :=
  { st with
    tasks := st.tasks.filter (fun t => t.name != n)
    reqLog := st.reqLog.filter (fun ev => ev.task != n)
    constrs := st.constrs.filter (fun c => !(c.body.coreTasks.any (fun t => t.name == n))) }

theorem mem_dropTask_tasks {st : State} {n : String} {t : Task} :
    t ∈ (st.dropTask n).tasks ↔ t ∈ st.tasks ∧ t.name ≠ n := by
  unfold State.dropTask
  rw [List.mem_filter, bne_iff_ne]

theorem findTask_dropTask (st : State) (n m : String) (h : m ≠ n) :
    (st.dropTask n).findTask m = st.findTask m :=
  find?_filter_ne _ _ _ fun _ ht => bne_iff_ne.2 (eq_of_beq ht ▸ h)

theorem findTask_dropTask_some (st : State) (n m : String) (t : Task) (h : (st.dropTask n).findTask m = some t) :
    m ≠ n ∧ st.findTask m = some t := by
  obtain ⟨hm, rfl⟩ := find?_beq_some h
  have hne := (mem_dropTask_tasks.1 hm).2
  exact ⟨hne, findTask_dropTask st n _ hne ▸ h⟩

theorem eventsOf_dropTask (st : State) (n m : String) (h : m ≠ n) :
    (st.dropTask n).eventsOf m = st.eventsOf m := by
  unfold State.eventsOf State.dropTask
  rw [List.filter_filter]
  refine List.filter_congr fun ev _ => ?_
  cases he : ev.task == m
  · rfl
  · rw [Bool.true_and, eq_of_beq he]; exact bne_iff_ne.2 h

theorem reqsOf_dropTask (st : State) (n m : String) (h : m ≠ n) :
    (st.dropTask n).reqsOf m = st.reqsOf m := by
  unfold State.reqsOf
  rw [eventsOf_dropTask st n m h]

theorem reqFor_dropTask (st : State) (n w m : String) (h : m ≠ n) :
    (st.dropTask n).reqFor w m = st.reqFor w m := by
  unfold State.reqFor
  rw [reqsOf_dropTask st n m h]

theorem busyWrites_dropTask (st : State) (n w : String) :
    (st.dropTask n).busyWrites w = (st.busyWrites w).filter (fun e => e.1 != n) := by
  show (st.reqLog.filter _).flatMap _ = (st.reqLog.flatMap _).filter _
  generalize st.reqLog = L
  induction L with
  | nil => rfl
  | cons ev L ih =>
      -- all the assignments of one event are to its task
      have hF : ((ev.reqs.filter (·.worker == w)).map fun r => (ev.task, r.maybe)).filter (fun e => e.1 != n) =
          if ev.task != n then (ev.reqs.filter (·.worker == w)).map (fun r => (ev.task, r.maybe)) else [] := by
        rw [List.filter_map]
        cases h : ev.task != n <;> simp [Function.comp_def, h]
      rw [List.flatMap_cons, List.filter_append, hF, ← ih, List.filter_cons]
      split <;> rfl

theorem busyOf_dropTask (st : State) (n w : String) :
    (st.dropTask n).busyOf w = (st.busyOf w).filter (fun e => e.1 != n) := by
  rw [busyOf_eq, busyOf_eq, busyWrites_dropTask, dictFrom_filter (fun k => k != n)]; rfl

theorem envPrim_dropTask (st : State) (n : String) (σ : Sched) (v : IVar) (hv : (st.dropTask n).ownI v = true) :
    (envPrim st σ).i v = (envPrim (st.dropTask n) σ).i v := by
  cases v <;> simp only [State.ownI, Bool.false_eq_true] at hv
  case horizon => rfl
  case tStart m | tEnd m | tDur m =>
    cases hf : (st.dropTask n).findTask m with
    | none => simp [hf] at hv
    | some t => simp only [envPrim, hf, (findTask_dropTask_some st n m t hf).2]
  case busyS w m fl | busyE w m fl =>
    -- an event of the smaller problem's log is about another task than `n`
    obtain ⟨ev, hev, h1⟩ := List.any_eq_true.1 hv
    have hne : m ≠ n := eq_of_beq (Bool.and_eq_true_iff.1 h1).1 ▸ bne_iff_ne.1 (List.mem_filter.1 hev).2
    simp only [envPrim, findTask_dropTask st n m hne, reqFor_dropTask st n w m hne]

theorem envOf_dropTask_agree (st : State) (n : String) (σ : Sched) (hc' : InCoreS (st.dropTask n)) :
    Env.AgreeOn2 (st.dropTask n).ownI2 ownB (envOf st σ) (envOf (st.dropTask n) σ) :=
  -- the two problems have the same indicators
  have hok : IndsOK st := ⟨hc'.indicators.isInd, hc'.indicators.distinct, hc'.indicators.simple⟩
  Env.AgreeOn2.own2 hc'
    ⟨fun v hv => by
      have hni := ownI_not_isInd _ v hv
      rw [envOf_prim st σ v hni, envOf_prim _ σ v hni]
      exact envPrim_dropTask st n σ v hv, fun _ _ => rfl⟩
    (fun ind hi T hT => envOf_indicator st σ hok ind hi T hT)
    (fun ind hi T hT => envOf_indicator _ σ hc'.indicators ind hi T hT)

theorem CoreMeaning_dropTask (st : State) (n : String) (σ : Sched) (hc' : InCoreS (st.dropTask n))
    (c : Nat) (b : CBody) (hb : b.inCoreS (st.dropTask n) c = true) :
    CoreMeaning st σ b ↔ CoreMeaning (st.dropTask n) σ b :=
  have hag := envOf_dropTask_agree st n σ hc'
  ⟨CoreMeaning_of_agree _ _ _ σ hag c b hb, CoreMeaning_of_agree _ _ _ σ hag.symm c b hb⟩

theorem busyFlag_dropTask (st : State) (n w tn : String) (d : Bool) (h : tn ≠ n) :
    (st.dropTask n).busyFlag w tn d = st.busyFlag w tn d := by
  unfold State.busyFlag
  rw [busyOf_dropTask, find?_filter_ne _ _ _ fun x hx => bne_iff_ne.2 (eq_of_beq hx ▸ h)]

theorem workTerms_dropTask (st : State) (n : String) (t : Task) (h : t.name ≠ n) :
    workTerms (st.dropTask n) t = workTerms st t := by
  unfold workTerms
  rw [reqsOf_dropTask st n t.name h]
  refine List.filterMap_congr fun r _ => ?_
  show (match st.findWorker r.worker with | none => none | some w => _) = _
  cases st.findWorker r.worker with
  | none => rfl
  | some w => simp only [busyFlag_dropTask st n w.name t.name r.maybe h]

theorem workSum_dropTask (st : State) (n : String) (σ : Sched) (hc' : InCoreS (st.dropTask n)) (t : Task)
    (h : t.name ≠ n) :
    Term.evalSum (envOf (st.dropTask n) σ) (workTerms (st.dropTask n) t) = Term.evalSum (envOf st σ) (workTerms st t) := by
  rw [← workTerms_dropTask st n t h]
  exact (workSum_congr _ _ _ (envOf_dropTask_agree st n σ hc') t).symm

/-- **C06 (⇒).** A valid schedule of the problem is a valid schedule of the problem without task `n` — whether or
    not `n` is scheduled: removing a task, its requirements and the constraints naming it only removes demands. -/
theorem C06_absent_restrict (st : State) (n : String) (σ : Sched) (hc' : InCoreS (st.dropTask n))
    (hv : Valid st σ) : Valid (st.dropTask n) σ where
  horizon_nonneg := hv.horizon_nonneg
  horizon_le := hv.horizon_le
  tasks := fun t ht hs => hv.tasks t (mem_dropTask_tasks.1 ht).1 hs
  dyn := by
    intro t ht r hr
    obtain ⟨htm, hne⟩ := mem_dropTask_tasks.1 ht
    rw [reqsOf_dropTask st n t.name hne] at hr
    exact hv.dyn t htm r hr
  counts := by
    intro t ht s rs hmem
    obtain ⟨htm, hne⟩ := mem_dropTask_tasks.1 ht
    rw [eventsOf_dropTask st n t.name hne] at hmem
    exact hv.counts t htm s rs hmem
  no_overlap := by
    intro w hw
    refine no_overlap_congr _ _ _ (envOf_dropTask_agree st n σ hc') w.name ?_
    rw [busyOf_dropTask]
    exact (hv.no_overlap w hw).filter _
  work := by
    intro t ht hw hne hs
    obtain ⟨htm, hnn⟩ := mem_dropTask_tasks.1 ht
    rw [workSum_dropTask st n σ hc' t hnn]
    rw [workTerms_dropTask st n t hnn] at hne
    exact hv.work t htm hw hne hs
  constrs := by
    intro c hc hop happ
    exact (CoreMeaning_dropTask st n σ hc' c.id c.body (hc'.constrs c hc hop).1).1
      (hv.constrs c (List.mem_filter.1 hc).1 hop happ)

/-- **C06 (⇐).** A valid schedule of the problem without the optional task `n`, which leaves `n` unscheduled, is a
    valid schedule of the whole problem — the task occupies nobody and constrains nobody — provided the selections
    `n` required keep their counts and the constraints naming `n` hold with `n` unscheduled (`C06_inert_guarded` for
    the guarded classes). -/
theorem C06_absent_extend (st : State) (n : String) (σ : Sched) (hc : InCoreS st) (hc' : InCoreS (st.dropTask n))
    (t : Task) (ht : t ∈ st.tasks) (hn : t.name = n) (hopt : t.optional = true) (hu : σ.sched n = false)
    (hdel : ∀ r ∈ st.reqsOf n, r.delayIn ≤ t.num0)
    (hsel : ∀ s rs, ReqEvent.viaSelect n s rs true ∈ st.eventsOf n → CountOK s.kind (σ.nSelected s) s.n)
    (hinert : ∀ c ∈ st.constrs, c.operand = false → c.body.coreTasks.any (fun t' => t'.name == n) = true →
      (c.optional = true → σ.applied c.id = true) → CoreMeaning st σ c.body)
    (hv' : Valid (st.dropTask n) σ) : Valid st σ := by
  -- a scheduled task is not named `n`: it is a task of the smaller problem
  have other : ∀ t0 ∈ st.tasks, σ.isSched t0 = true → t0 ∈ (st.dropTask n).tasks ∧ t0.name ≠ n := by
    intro t0 h0 hs
    have hn0 : t0.name ≠ n := fun hn0 => by
      have : t0 = t := Option.some.inj ((hc.names t0 h0).symm.trans (hn0.trans hn.symm ▸ hc.names t ht))
      rw [Sched.isSched, this, hn, hu, hopt] at hs
      exact Bool.false_ne_true hs
    exact ⟨mem_dropTask_tasks.2 ⟨h0, hn0⟩, hn0⟩
  have htasks : ∀ t0 ∈ st.tasks, σ.isSched t0 = true → TaskValid σ t0 :=
    fun t0 h0 hs => hv'.tasks t0 (other t0 h0 hs).1 hs
  have hdyn : ∀ t0 ∈ st.tasks, ∀ r ∈ st.reqsOf t0.name, r.sel = none → r.dynamic = true → σ.isSched t0 = true →
      DynValid σ t0 r := by
    intro t0 h0 r hr hsel' hd hs
    obtain ⟨m0, hn0⟩ := other t0 h0 hs
    rw [← reqsOf_dropTask st n t0.name hn0] at hr
    exact hv'.dyn t0 m0 r hr hsel' hd hs
  refine ⟨hv'.horizon_nonneg, hv'.horizon_le, htasks, hdyn, ?_, ?_, ?_, ?_⟩
  · intro t0 h0 s rs hmem
    by_cases hn0 : t0.name = n
    · rw [hn0] at hmem; exact hsel s rs hmem
    · rw [← eventsOf_dropTask st n t0.name hn0] at hmem
      exact hv'.counts t0 (mem_dropTask_tasks.2 ⟨h0, hn0⟩) s rs hmem
  · -- on real intervals the unscheduled task does not appear
    refine (realNoOverlap_iff st σ hc htasks hdyn).1 fun w hw t1 ht1 t2 ht2 hne r1 hr1 r2 hr2 hw1 hw2 ha1 ha2 => ?_
    obtain ⟨m1, n1⟩ := other t1 ht1 (σ.isSched_of_active ha1)
    obtain ⟨m2, n2⟩ := other t2 ht2 (σ.isSched_of_active ha2)
    rw [← reqsOf_dropTask st n _ n1] at hr1
    rw [← reqsOf_dropTask st n _ n2] at hr2
    exact (realNoOverlap_iff _ σ hc' hv'.tasks hv'.dyn).2 hv'.no_overlap w hw t1 m1 t2 m2 hne r1 hr1 r2 hr2 hw1 hw2
      ha1 ha2
  · intro t0 h0 hw hne hs
    obtain ⟨m0, hn0⟩ := other t0 h0 hs
    rw [← workSum_dropTask st n σ hc' t0 hn0]
    rw [← workTerms_dropTask st n t0 hn0] at hne
    exact hv'.work t0 m0 hw hne hs
  · intro c hcm hop happ
    by_cases hnam : c.body.coreTasks.any (fun t' => t'.name == n) = true
    · exact hinert c hcm hop hnam happ
    · have hcm' : c ∈ (st.dropTask n).constrs := List.mem_filter.2 ⟨hcm, by simp [hnam]⟩
      exact (CoreMeaning_dropTask st n σ hc' c.id c.body (hc'.constrs c hcm' hop).1).2 (hv'.constrs c hcm' hop happ)

/-- classes whose assertion is guarded by the scheduled flags of the tasks they name -/
def CBody.isGuarded : CBody → Bool
  | .startAt .. | .startAfter .. | .endAt .. | .endBefore .. | .precedence .. | .startSynced .. | .endSynced ..
  | .dontOverlap .. => true
  | _ => false

/-- **C06 (inert constraints).** A guarded constraint that names an unscheduled task holds whatever the others do. -/
theorem C06_inert_guarded (st : State) (σ : Sched) (b : CBody) (hb : b.isGuarded = true) (t : Task)
    (ht : t ∈ b.coreTasks) (hs : σ.isSched t = false) : CoreMeaning st σ b := by
  have no : ¬ σ.isSched t = true := by rw [hs]; exact Bool.false_ne_true
  cases b <;> simp only [CBody.isGuarded, Bool.false_eq_true] at hb <;>
    simp only [CBody.coreTasks, List.mem_cons, List.not_mem_nil, or_false] at ht <;>
    simp only [CoreMeaning]
  case startAt | startAfter | endAt | endBefore => subst ht; exact fun h => absurd h no
  case precedence | startSynced | endSynced | dontOverlap =>
    rcases ht with rfl | rfl
    · exact fun h _ => absurd h no
    · exact fun _ h => absurd h no

/-- `C06_absent_extend` with its side conditions as tests that can be evaluated: `n` required no selection, and the
    constraints naming it are of the guarded classes -/
theorem C06_absent_extend_guarded (st : State) (n : String) (σ : Sched) (hc : InCoreS st)
    (hc' : InCoreS (st.dropTask n)) (t : Task) (hft : st.findTask n = some t) (hopt : t.optional = true)
    (hu : σ.sched n = false) (hdel : ∀ r ∈ st.reqsOf n, r.delayIn ≤ t.num0)
    (hsel : (st.eventsOf n).all (fun ev => match ev with | .direct _ _ => true | .viaSelect _ _ _ _ => false) = true)
    (hgd : st.constrs.all (fun c => c.operand || !(c.body.coreTasks.any (fun t => t.name == n)) || c.body.isGuarded) = true)
    (hv' : Valid (st.dropTask n) σ) : Valid st σ := by
  obtain ⟨htm, htn⟩ := find?_beq_some hft
  refine C06_absent_extend st n σ hc hc' t htm htn hopt hu hdel ?_ ?_ hv'
  · intro s rs hmem
    exact absurd ((List.all_eq_true.1 hsel) _ hmem) Bool.false_ne_true
  · intro c hcm hop hnam _
    have hg := (List.all_eq_true.1 hgd) c hcm
    simp only [hop, hnam, Bool.false_or, Bool.not_true] at hg
    obtain ⟨t', ht', hn'⟩ := List.any_eq_true.1 hnam
    -- the named task is `t`: the constraint's tasks are declared tasks of the problem
    have ht'eq : t' = t := Option.some.inj (((hc.constrs c hcm hop).2.2 t' ht').symm.trans (eq_of_beq hn' ▸ hft))
    refine C06_inert_guarded st σ c.body hg t' ht' ?_
    unfold Sched.isSched
    rw [ht'eq, htn, hu, hopt]; rfl

theorem WFInv_dropTask {st : State} (w : WFInv st) (n : String) : WFInv (st.dropTask n) where
  nodup := (List.filter_sublist.map _).nodup w.nodup
  events := fun ev hev => w.events ev (List.mem_filter.1 hev).1
  req_tasks := by
    intro ev hev
    obtain ⟨hm, hne⟩ := List.mem_filter.1 hev
    obtain ⟨t, ht, hn⟩ := w.req_tasks ev hm
    exact ⟨t, List.mem_filter.2 ⟨ht, hn ▸ hne⟩, hn⟩

/-- **C06, encoder level (⇒).** The schedule denoted by an interpretation the constraint system of the problem
    admits is admitted by the constraint system of the problem without task `n`. -/
theorem C06_absent_models_restrict (cfg cfg' : Config) (st : State) (n : String) (hc : InCoreS st)
    (hc' : InCoreS (st.dropTask n)) (ρ : Env) (hρ : Sat ρ (initFmls cfg st)) (hH : 0 ≤ ρ.i .horizon) :
    Sat (envOf (st.dropTask n) (schedOf ρ)) (initFmls cfg' (st.dropTask n)) :=
  C05_complete_core cfg' _ _ hc'.inCore (C06_absent_restrict st n _ hc' (C05_sound_core cfg st ρ hc hρ hH))

/-- **C06, encoder level (⇐).** The schedule denoted by an interpretation admitted for the problem without the
    optional task `n` — `n` unscheduled — is admitted for the whole problem. -/
theorem C06_absent_models_extend (cfg cfg' : Config) (st : State) (n : String) (hc : InCoreS st)
    (hc' : InCoreS (st.dropTask n)) (t : Task) (ht : t ∈ st.tasks) (hn : t.name = n) (hopt : t.optional = true)
    (ρ' : Env) (hρ' : Sat ρ' (initFmls cfg' (st.dropTask n))) (hH : 0 ≤ ρ'.i .horizon)
    (hu : ρ'.b (.sched n) = false)
    (hdel : ∀ r ∈ st.reqsOf n, r.delayIn ≤ t.num0)
    (hsel : ∀ s rs, ReqEvent.viaSelect n s rs true ∈ st.eventsOf n → CountOK s.kind ((schedOf ρ').nSelected s) s.n)
    (hinert : ∀ c ∈ st.constrs, c.operand = false → c.body.coreTasks.any (fun t' => t'.name == n) = true →
      (c.optional = true → ρ'.b (.applied c.id) = true) → CoreMeaning st (schedOf ρ') c.body) :
    Sat (envOf st (schedOf ρ')) (initFmls cfg st) :=
  C05_complete_core cfg st _ hc.inCore
    (C06_absent_extend st n _ hc hc' t ht hn hopt hu hdel hsel hinert (C05_sound_core cfg' _ ρ' hc' hρ' hH))

/-! ### non-vacuity: a variant of the example of `Exact.lean` (without its flow-time objective, whose indicator sums
    over every task — what an unscheduled task contributes to such a sum is `C06_no_indicator_contribution`), and the
    same problem without its optional task "C" -/

def Absent_exState : State :=
  run [.problem "p" (some 12),
       .task "A" (.fixed 3) false 2 (some 1) (some 9) true 1,
       .task "B" (.var 1 (some 4) (some [2, 3])) true 0 none none true 1,
       .task "C" (.zero) true 0 none none true 1,
       .worker "W" 1 (.const 0), .worker "V" 2 (.const 0),
       .select none ["W", "V"] 1 .exact,
       .require "A" (.select 0) false 0 0,
       .require "B" (.worker "W") true 0 0,
       .require "C" (.worker "V") false 0 0,
       .constr none false (.precedence "A" "B" 1 .lax),
       .constr none true (.startAt "A" 2),
       .constr none false (.precedence "B" "C" 0 .lax),
       .constr none false (.dontOverlap "A" "B"),
       .constr none false (.fromExpr (.le (.add (.var (.tEnd "A")) (numT 1)) (.var (.tStart "B")))),
       .constr none false (.not_ (.ref 1)),
       .constr none false (.unavailable "W" [(0, 1)]),
       .indicator (.tardiness (some ["A"])),
       .constr none false (.indicatorBounds 0 none (some 6))]

-- in one kernel evaluation of the script: both problems pass the fragment test; the witness interpretation satisfies
-- the (quantifier-free) assertions
theorem Absent_ex_tests :
    (Absent_exState.fragmentB = true ∧ (Absent_exState.dropTask "C").fragmentB = true) ∧
    ((initFmls {} Absent_exState).all Fml.qf = true ∧
     satB (envOf Absent_exState Exact_exSched) (initFmls {} Absent_exState) = true) ∧
    0 ≤ (envOf Absent_exState Exact_exSched).i .horizon := by
  decide +kernel

-- "C" is optional, its delay stays below its number, it requires no selection, the constraints naming it are guarded
theorem Absent_ex_inert :
    Absent_exState.findTask "C" = some ⟨"C", 2, .zero, true, 0, none, none, true, 1⟩ ∧
    (∀ r ∈ Absent_exState.reqsOf "C", r.delayIn ≤ (2 : Nat)) ∧
    (Absent_exState.eventsOf "C").all (fun ev => match ev with | .direct _ _ => true | .viaSelect _ _ _ _ => false) = true ∧
    Absent_exState.constrs.all
      (fun c => c.operand || !(c.body.coreTasks.any (fun t => t.name == "C")) || c.body.isGuarded) = true := by
  decide +kernel

example : DelaysBelowNumber Absent_exState := by unfold DelaysBelowNumber; decide +kernel

theorem Absent_ex_full : InCoreS Absent_exState := fragmentB_sound ⟨_, rfl⟩ Absent_ex_tests.1.1

theorem Absent_ex_inCoreS : InCoreS (Absent_exState.dropTask "C") :=
  fragmentB_sound_wf (WFInv_dropTask (reachable_wf _ ⟨_, rfl⟩) "C") Absent_ex_tests.1.2

-- the task "C", its requirement and the precedence naming it are gone
example : (Absent_exState.dropTask "C").tasks.length = 2 ∧ (Absent_exState.dropTask "C").constrs.length = 7 ∧
    Absent_exState.constrs.length = 8 ∧ (Absent_exState.dropTask "C").reqLog.length = 2 ∧
    Absent_exState.reqLog.length = 3 := by decide +kernel

theorem Absent_ex_model : Sat (envOf Absent_exState Exact_exSched) (initFmls {} Absent_exState) :=
  satB_sound _ _ Absent_ex_tests.2.1.1 Absent_ex_tests.2.1.2

/-- (⇒) the model of the full problem, restricted: admitted by the constraint system of the problem without "C" -/
example : Sat (envOf (Absent_exState.dropTask "C") (schedOf (envOf Absent_exState Exact_exSched)))
    (initFmls {} (Absent_exState.dropTask "C")) :=
  C06_absent_models_restrict {} {} Absent_exState "C" Absent_ex_full Absent_ex_inCoreS _ Absent_ex_model
    Absent_ex_tests.2.2

/-- (⇐) a valid schedule of the problem without "C" is valid for the whole problem: "C" requires worker "V" and is
    named by a precedence, both inert while it is unscheduled -/
example (σ : Sched) (hu : σ.sched "C" = false) (hv' : Valid (Absent_exState.dropTask "C") σ) : Valid Absent_exState σ :=
  have ⟨hft, hdel, hsel, hgd⟩ := Absent_ex_inert
  C06_absent_extend_guarded Absent_exState "C" σ Absent_ex_full Absent_ex_inCoreS _ hft rfl hu hdel hsel hgd hv'

end PS
