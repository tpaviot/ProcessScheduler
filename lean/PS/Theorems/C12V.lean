/-
  C12 on schedules. An `unsat` answer to "another solution" means that every valid schedule of the problem has the
  timing of a schedule already returned: `C12_exhaustive` says it for admitted interpretations, and a complete encoding
  turns valid schedules into admitted interpretations (`Complete.exhaustive`, for any such encoding that stores the
  task times and flags as `envOf` does; `C12_exhaustive_valid` is the core fragment, `C05_complete_core`). Every model
  returned denotes a valid schedule (`C12_returned_valid`: soundness, on the smaller fragment `InCoreS` of
  `C05_sound_core`).
-/
import PS.Theorems.C12
import PS.Theorems.Exact
namespace PS

theorem Complete.exhaustive {st : State} {cfg : Config} {V : Sched → Prop} {enc : Sched → Env}
    (h : Complete (initFmls cfg st) V enc)
    (henc : ∀ σ, ∀ t ∈ st.tasks, (enc σ).i (.tStart t.name) = tStartOf σ t ∧ (enc σ).i (.tEnd t.name) = tEndOf σ t ∧
      (enc σ).b (.sched t.name) = σ.sched t.name)
    (prev : List Env) (hu : ConsistentAns (initFmls cfg st ++ prev.map (blockingClause st)) .unsat) :
    ∀ σ, V σ → ∃ ρ ∈ prev, ∀ t ∈ st.tasks,
      ρ.i (.tStart t.name) = tStartOf σ t ∧ ρ.i (.tEnd t.name) = tEndOf σ t ∧
      (t.optional = true → ρ.b (.sched t.name) = σ.sched t.name) := by
  intro σ hv
  obtain ⟨ρ, hρ, hsame⟩ := C12_exhaustive st cfg prev hu _ (h σ hv)
  refine ⟨ρ, hρ, fun t ht => ?_⟩
  obtain ⟨h1, h2, h3⟩ := hsame t ht
  obtain ⟨e1, e2, e3⟩ := henc σ t ht
  exact ⟨h1.symm.trans e1, h2.symm.trans e2, fun ho => (h3 ho).symm.trans e3⟩

theorem C12_exhaustive_valid (st : State) (cfg : Config) (prev : List Env) (hc : InCore st)
    (h : ConsistentAns (initFmls cfg st ++ prev.map (blockingClause st)) .unsat) :
    ∀ σ, Valid st σ → ∃ ρ ∈ prev, ∀ t ∈ st.tasks,
      ρ.i (.tStart t.name) = tStartOf σ t ∧ ρ.i (.tEnd t.name) = tEndOf σ t ∧
      (t.optional = true → ρ.b (.sched t.name) = σ.sched t.name) :=
  Complete.exhaustive (C05_complete_core cfg st · hc)
    (fun σ t ht => ⟨envOf_tStart st σ t (hc.names t ht), envOf_tEnd st σ t (hc.names t ht), rfl⟩) prev h

theorem C12_returned_valid (st : State) (cfg : Config) (prev : List Env) (extra : List Fml) (ρ' : Env)
    (hc : InCoreS st) (hH : 0 ≤ ρ'.i .horizon)
    (h : ConsistentAns (initFmls cfg st ++ prev.map (blockingClause st) ++ extra) (.sat ρ')) :
    Valid st (schedOf ρ') ∧ ∀ ρ ∈ prev, ¬ SameTiming st ρ ρ' :=
  (C12_distinct st cfg prev extra ρ' h).imp_left (C05_sound_core cfg st ρ' hc · hH)

end PS
