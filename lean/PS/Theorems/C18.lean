/-
  C18 — Ill-formed model elements are rejected at creation, well-formed ones accepted.

  `step st d = (st', err?)` is the model of "call constructor d in state st".  The theorems state
  the decision outright:
    * field validation: the table generated from the pydantic models of /repo on every run is the
      table the model assumes (`fieldTable_meets_spec`, by `rfl`);
    * tasks, workers, selections, buffers, problems: accepted **iff** well formed
      (`C18_task_iff`, `C18_worker_iff`, `C18_select_iff`, `C18_buffer_iff`, `C18_problem_iff`);
    * cumulative workers: size < 2 or productivity ≤ 0 rejected (`C18_cumulative_rejected`);
    * optional-task rules on mandatory tasks, force-apply over mandatory constraints, resource
      constraints on unassigned resources: rejected (`C18_optional_rule_rejected`,
      `C18_force_apply_rejected`, `C18_unassigned_rejected`);
    * nothing but a problem is accepted before a problem exists (`C18_before_problem`).
  The real constructors are compared with `step` on the ACC grid.
-/
import PS.Proofs.StepCases
import PS.Generated.FieldTable
namespace PS

/-- the field constraints the validation model assumes (`taskFieldsValid`, `stepWorker`,
    `stepCumulative`, `stepSelect`, `stepProblem`, `State.resolve`), for **every** pydantic model class the package
    exports: numeric bounds, minimal lengths, the words each `Literal` field accepts (kinds, modes, optimiser
    options) and `extra = forbid` -/
def expectedFieldTable : List (String × String × String × Int) := [
  ("And", "__extra__", "extra:forbid", 0),
  ("ConcurrentBuffer", "__extra__", "extra:forbid", 0),
  ("ConstantFunction", "__extra__", "extra:forbid", 0),
  ("Constraint", "__extra__", "extra:forbid", 0),
  ("ConstraintFromExpression", "__extra__", "extra:forbid", 0),
  ("CumulativeWorker", "__extra__", "extra:forbid", 0),
  ("CumulativeWorker", "productivity", "gt", 0),
  ("CumulativeWorker", "size", "gt", 1),
  ("DistinctWorkers", "__extra__", "extra:forbid", 0),
  ("FixedDurationTask", "__extra__", "extra:forbid", 0),
  ("FixedDurationTask", "duration", "gt", 0),
  ("FixedDurationTask", "priority", "ge", 0),
  ("FixedDurationTask", "work_amount", "ge", 0),
  ("ForceApplyNOptionalConstraints", "__extra__", "extra:forbid", 0),
  ("ForceApplyNOptionalConstraints", "kind", "lit:min|max|exact", 0),
  ("ForceApplyNOptionalConstraints", "nb_constraints_to_apply", "gt", 0),
  ("ForceScheduleNOptionalTasks", "__extra__", "extra:forbid", 0),
  ("ForceScheduleNOptionalTasks", "kind", "lit:min|max|exact", 0),
  ("ForceScheduleNOptionalTasks", "nb_tasks_to_schedule", "gt", 0),
  ("GeneralFunction", "__extra__", "extra:forbid", 0),
  ("IfThenElse", "__extra__", "extra:forbid", 0),
  ("Implies", "__extra__", "extra:forbid", 0),
  ("Indicator", "__extra__", "extra:forbid", 0),
  ("IndicatorBounds", "__extra__", "extra:forbid", 0),
  ("IndicatorConstraint", "__extra__", "extra:forbid", 0),
  ("IndicatorEarliness", "__extra__", "extra:forbid", 0),
  ("IndicatorFromMathExpression", "__extra__", "extra:forbid", 0),
  ("IndicatorMaxBufferLevel", "__extra__", "extra:forbid", 0),
  ("IndicatorMaximumLateness", "__extra__", "extra:forbid", 0),
  ("IndicatorMinBufferLevel", "__extra__", "extra:forbid", 0),
  ("IndicatorNumberOfTardyTasks", "__extra__", "extra:forbid", 0),
  ("IndicatorNumberTasksAssigned", "__extra__", "extra:forbid", 0),
  ("IndicatorResourceCost", "__extra__", "extra:forbid", 0),
  ("IndicatorResourceIdle", "__extra__", "extra:forbid", 0),
  ("IndicatorResourceUtilization", "__extra__", "extra:forbid", 0),
  ("IndicatorTardiness", "__extra__", "extra:forbid", 0),
  ("IndicatorTarget", "__extra__", "extra:forbid", 0),
  ("LinearFunction", "__extra__", "extra:forbid", 0),
  ("NamedUIDObject", "__extra__", "extra:forbid", 0),
  ("NonConcurrentBuffer", "__extra__", "extra:forbid", 0),
  ("Not", "__extra__", "extra:forbid", 0),
  ("Objective", "__extra__", "extra:forbid", 0),
  ("Objective", "kind", "lit:minimize|maximize", 0),
  ("ObjectiveMaximizeIndicator", "__extra__", "extra:forbid", 0),
  ("ObjectiveMaximizeIndicator", "kind", "lit:minimize|maximize", 0),
  ("ObjectiveMaximizeMaxBufferLevel", "__extra__", "extra:forbid", 0),
  ("ObjectiveMaximizeMaxBufferLevel", "kind", "lit:minimize|maximize", 0),
  ("ObjectiveMaximizeResourceUtilization", "__extra__", "extra:forbid", 0),
  ("ObjectiveMaximizeResourceUtilization", "kind", "lit:minimize|maximize", 0),
  ("ObjectiveMinimizeFlowtime", "__extra__", "extra:forbid", 0),
  ("ObjectiveMinimizeFlowtime", "kind", "lit:minimize|maximize", 0),
  ("ObjectiveMinimizeFlowtimeSingleResource", "__extra__", "extra:forbid", 0),
  ("ObjectiveMinimizeFlowtimeSingleResource", "kind", "lit:minimize|maximize", 0),
  ("ObjectiveMinimizeGreatestStartTime", "__extra__", "extra:forbid", 0),
  ("ObjectiveMinimizeGreatestStartTime", "kind", "lit:minimize|maximize", 0),
  ("ObjectiveMinimizeIndicator", "__extra__", "extra:forbid", 0),
  ("ObjectiveMinimizeIndicator", "kind", "lit:minimize|maximize", 0),
  ("ObjectiveMinimizeMakespan", "__extra__", "extra:forbid", 0),
  ("ObjectiveMinimizeMakespan", "kind", "lit:minimize|maximize", 0),
  ("ObjectiveMinimizeMaxBufferLevel", "__extra__", "extra:forbid", 0),
  ("ObjectiveMinimizeMaxBufferLevel", "kind", "lit:minimize|maximize", 0),
  ("ObjectiveMinimizeResourceCost", "__extra__", "extra:forbid", 0),
  ("ObjectiveMinimizeResourceCost", "kind", "lit:minimize|maximize", 0),
  ("ObjectivePriorities", "__extra__", "extra:forbid", 0),
  ("ObjectivePriorities", "kind", "lit:minimize|maximize", 0),
  ("ObjectiveTasksStartEarliest", "__extra__", "extra:forbid", 0),
  ("ObjectiveTasksStartEarliest", "kind", "lit:minimize|maximize", 0),
  ("ObjectiveTasksStartLatest", "__extra__", "extra:forbid", 0),
  ("ObjectiveTasksStartLatest", "kind", "lit:minimize|maximize", 0),
  ("OptionalTaskConditionSchedule", "__extra__", "extra:forbid", 0),
  ("OptionalTaskForceSchedule", "__extra__", "extra:forbid", 0),
  ("OptionalTasksDependency", "__extra__", "extra:forbid", 0),
  ("Or", "__extra__", "extra:forbid", 0),
  ("OrderedTaskGroup", "__extra__", "extra:forbid", 0),
  ("OrderedTaskGroup", "kind", "lit:lax|strict|tight", 0),
  ("PolynomialFunction", "__extra__", "extra:forbid", 0),
  ("ResourceConstraint", "__extra__", "extra:forbid", 0),
  ("ResourceInterrupted", "__extra__", "extra:forbid", 0),
  ("ResourceNonDelay", "__extra__", "extra:forbid", 0),
  ("ResourcePeriodicallyInterrupted", "__extra__", "extra:forbid", 0),
  ("ResourcePeriodicallyUnavailable", "__extra__", "extra:forbid", 0),
  ("ResourceTasksDistance", "__extra__", "extra:forbid", 0),
  ("ResourceTasksDistance", "mode", "lit:min|max|exact", 0),
  ("ResourceUnavailable", "__extra__", "extra:forbid", 0),
  ("SameWorkers", "__extra__", "extra:forbid", 0),
  ("ScheduleNTasksInTimeIntervals", "__extra__", "extra:forbid", 0),
  ("ScheduleNTasksInTimeIntervals", "kind", "lit:min|max|exact", 0),
  ("SchedulingProblem", "__extra__", "extra:forbid", 0),
  ("SchedulingProblem", "horizon", "gt", 0),
  ("SchedulingSolver", "__extra__", "extra:forbid", 0),
  ("SchedulingSolver", "logics", "lit:QF_LRA|HORN|QF_LIA|QF_RDL|QF_IDL|QF_AUFLIA|QF_ALIA|QF_AUFLIRA|QF_AUFNIA|QF_AUFNIRA|QF_ANIA|QF_LIRA|QF_UFLIA|QF_UFLRA|QF_UFIDL|QF_UFRDL|QF_NIRA|QF_UFNRA|QF_UFNIA|QF_UFNIRA|QF_S|QF_SLIA|UFIDL|QF_FPLRA", 0),
  ("SchedulingSolver", "max_time", "gt", 0),
  ("SchedulingSolver", "optimize_priority", "lit:pareto|lex|box|weight", 0),
  ("SchedulingSolver", "optimizer", "lit:incremental|optimize", 0),
  ("SelectWorkers", "__extra__", "extra:forbid", 0),
  ("SelectWorkers", "kind", "lit:exact|min|max", 0),
  ("SelectWorkers", "list_of_workers", "minLen", 2),
  ("SelectWorkers", "nb_workers_to_select", "gt", 0),
  ("TaskConstraint", "__extra__", "extra:forbid", 0),
  ("TaskEndAt", "__extra__", "extra:forbid", 0),
  ("TaskEndBefore", "__extra__", "extra:forbid", 0),
  ("TaskEndBefore", "kind", "lit:lax|strict", 0),
  ("TaskGroup", "__extra__", "extra:forbid", 0),
  ("TaskLoadBuffer", "__extra__", "extra:forbid", 0),
  ("TaskPrecedence", "__extra__", "extra:forbid", 0),
  ("TaskPrecedence", "kind", "lit:lax|strict|tight", 0),
  ("TaskPrecedence", "offset", "ge", 0),
  ("TaskStartAfter", "__extra__", "extra:forbid", 0),
  ("TaskStartAfter", "kind", "lit:lax|strict", 0),
  ("TaskStartAt", "__extra__", "extra:forbid", 0),
  ("TaskUnloadBuffer", "__extra__", "extra:forbid", 0),
  ("TasksContiguous", "__extra__", "extra:forbid", 0),
  ("TasksDontOverlap", "__extra__", "extra:forbid", 0),
  ("TasksEndSynced", "__extra__", "extra:forbid", 0),
  ("TasksStartSynced", "__extra__", "extra:forbid", 0),
  ("UnorderedTaskGroup", "__extra__", "extra:forbid", 0),
  ("VariableDurationTask", "__extra__", "extra:forbid", 0),
  ("VariableDurationTask", "allowed_durations", "gt", 0),
  ("VariableDurationTask", "max_duration", "gt", 0),
  ("VariableDurationTask", "min_duration", "ge", 0),
  ("VariableDurationTask", "priority", "ge", 0),
  ("VariableDurationTask", "work_amount", "ge", 0),
  ("WorkLoad", "__extra__", "extra:forbid", 0),
  ("WorkLoad", "kind", "lit:exact|max|min", 0),
  ("Worker", "__extra__", "extra:forbid", 0),
  ("Worker", "productivity", "ge", 0),
  ("Xor", "__extra__", "extra:forbid", 0),
  ("ZeroDurationTask", "__extra__", "extra:forbid", 0),
  ("ZeroDurationTask", "duration", "lit:0", 0),
  ("ZeroDurationTask", "priority", "ge", 0),
  ("ZeroDurationTask", "work_amount", "ge", 0)
]

/-- **TABLE.** The field metadata read from the current source is what the model assumes.  (`rfl`: the two tables are
    the same literal, and a regenerated table that differs fails the definitional check.) -/
theorem fieldTable_meets_spec : generatedFieldTable = expectedFieldTable := rfl

def Accepted (st : State) (d : Decl) : Prop := (step st d).2 = none

theorem accepted_ite_fail {c : Prop} [Decidable c] {st : State} {e : Err} {r : Res} :
    (if c then fail st e else r).2 = none ↔ ¬ c ∧ r.2 = none := by
  by_cases h : c
  · rw [if_pos h]; exact ⟨nofun, fun h' => absurd h h'.1⟩
  · rw [if_neg h]; exact ⟨fun h' => ⟨h, h'⟩, fun h' => h'.2⟩

theorem accepted_ok (st : State) : (ok st).2 = none := rfl

theorem fail_ne (st : State) (e : Err) : (fail st e).2 ≠ none := by simp [fail]

theorem any_name_iff {α} (l : List α) (f : α → String) (name : String) :
    l.any (fun x => f x == name) = false ↔ ∀ x ∈ l, f x ≠ name := by
  simp only [List.any_eq_false, beq_iff_eq, ne_eq]

def TaskWF (st : State) (name : String) (kind : TaskKind) (work prio : Int) : Prop :=
  (match kind with
   | .fixed d => 0 < d
   | .zero => True
   | .var minD maxD allowed => 0 ≤ minD ∧ (∀ m, maxD = some m → 0 < m) ∧ (∀ l, allowed = some l → ∀ x ∈ l, 0 < x)) ∧
  0 ≤ work ∧ 0 ≤ prio ∧ st.active = true ∧ ∀ t ∈ st.tasks, t.name ≠ name

theorem fieldsValid_iff (kind : TaskKind) :
    kind.fieldsValid = true ↔
      (match kind with
       | .fixed d => 0 < d
       | .zero => True
       | .var minD maxD allowed => 0 ≤ minD ∧ (∀ m, maxD = some m → 0 < m) ∧ (∀ l, allowed = some l → ∀ x ∈ l, 0 < x)) := by
  cases kind with
  | fixed d | zero => simp [TaskKind.fieldsValid]
  | var minD maxD allowed =>
      cases maxD <;> cases allowed <;> simp [TaskKind.fieldsValid, List.all_eq_true, and_assoc]

/-- **C18 (tasks).** A task is accepted iff its duration is positive (fixed) / its bounds make
    sense (variable), work amount and priority are non-negative, a problem exists and no task has
    that name. -/
theorem C18_task_iff (st : State) (name : String) (kind : TaskKind) (optional : Bool) (work : Int)
    (release due : Option Int) (deadline : Bool) (prio : Int) :
    Accepted st (.task name kind optional work release due deadline prio) ↔ TaskWF st name kind work prio := by
  unfold Accepted TaskWF
  simp only [step, stepTask, accepted_ite_fail, accepted_ok, and_true]
  rw [← fieldsValid_iff, ← any_name_iff]
  simp only [taskFieldsValid, Bool.not_eq_true', Bool.not_eq_false, Bool.and_eq_true, decide_eq_true_eq, and_assoc,
    ge_iff_le, Bool.not_eq_true]

def WorkerWF (st : State) (name : String) (prod : Int) : Prop :=
  0 ≤ prod ∧ st.active = true ∧ ∀ w ∈ st.workers, w.name ≠ name

theorem C18_worker_iff (st : State) (name : String) (prod : Int) (cost : Cost) :
    Accepted st (.worker name prod cost) ↔ WorkerWF st name prod := by
  unfold Accepted WorkerWF
  simp only [step, stepWorker, accepted_ite_fail, accepted_ok, and_true]
  simp

theorem C18_buffer_iff (st : State) (name : String) (conc : Bool) (i f lb ub : Option Int) :
    Accepted st (.buffer name conc i f lb ub) ↔
      (st.active = true ∧ (i.isSome = true ∨ f.isSome = true) ∧ ∀ b ∈ st.buffers, b.name ≠ name) := by
  unfold Accepted
  simp only [step, stepBuffer, accepted_ite_fail, accepted_ok, and_true]
  rw [← any_name_iff]
  have : ¬ (i.isNone && f.isNone) = true ↔ (i.isSome = true ∨ f.isSome = true) := by cases i <;> cases f <;> simp
  simp only [this, Bool.not_eq_true', Bool.not_eq_false, Bool.not_eq_true]

theorem C18_problem_iff (st : State) (name : String) (h : Option Int) :
    Accepted st (.problem name h) ↔ ∀ H, h = some H → 0 < H :=
  stepProblem_accepted

def SelectWF (st : State) (name : Option String) (workers : List String) (n : Int) : Prop :=
  2 ≤ workers.length ∧ 0 < n ∧ n ≤ workers.length ∧
  (∀ w ∈ workers, (st.findWorker w).isSome = true ∨ (st.findCumul w).isSome = true) ∧
  st.active = true ∧ (name.isSome = true → st.selects.any (fun s => s.name == name) = false)

/-- **C18 (selections).** Accepted iff at least two listed entries (each an existing worker or cumulative worker),
    `1 ≤ n ≤` their number, a problem exists, and the explicit name (if any) is not used by another selection. -/
theorem C18_select_iff (st : State) (name : Option String) (workers : List String) (n : Int) (kind : CountKind) :
    Accepted st (.select name workers n kind) ↔ SelectWF st name workers n := by
  unfold Accepted SelectWF
  simp only [step, stepSelect, accepted_ite_fail, accepted_ok, and_true]
  have g1 : ¬ (decide (workers.length < 2) || decide (n ≤ 0)) = true ↔ 2 ≤ workers.length ∧ 0 < n := by
    simp only [Bool.or_eq_true, decide_eq_true_eq, not_or, Nat.not_lt, Int.not_le]
  have g2 : ¬ (workers.any fun w => (st.findWorker w).isNone && (st.findCumul w).isNone) = true ↔
      ∀ w ∈ workers, (st.findWorker w).isSome = true ∨ (st.findCumul w).isSome = true := by
    simp only [List.any_eq_true, not_exists, not_and, Bool.and_eq_true, Option.isNone_iff_eq_none,
      Option.isSome_iff_ne_none, ne_eq]
    exact forall₂_congr fun w _ => Decidable.imp_iff_not_or
  have g4 : ¬ (!st.active) = true ↔ st.active = true := by simp
  have g5 : ¬ (name.isSome && st.selects.any fun x => x.name == name) = true ↔
      (name.isSome = true → (st.selects.any fun x => x.name == name) = false) := by simp
  -- the constructor looks the workers up before it compares `n` with their number; `SelectWF` lists the bound first
  rw [g1, g2, g4, g5, Int.not_lt, and_assoc, and_left_comm (a := ∀ w ∈ workers, _)]

theorem C18_cumulative_rejected (st : State) (name : String) (size prod : Int) (cost : Cost)
    (h : size < 2 ∨ prod ≤ 0) : ¬ Accepted st (.cumulative name size prod cost) := by
  intro ha
  simp only [Accepted, step, stepCumulative, accepted_ite_fail, Bool.or_eq_true, decide_eq_true_eq] at ha
  omega

theorem stepConstr_accepted {st : State} {name : Option String} {opt : Bool} {d : CDecl} :
    (stepConstr st name opt d).2 = none → ∃ b marks, st.resolve d = .body b marks :=
  stepConstr_ind (P := fun r => r.2 = none → ∃ b marks, st.resolve d = .body b marks) name opt d
    (fun _ h => nomatch h) fun _ _ _ _ h => h

theorem C18_optional_rule_rejected (st : State) (name : Option String) (opt : Bool) (t : Task) (tn : String)
    (hf : st.findTask tn = some t) (hm : t.optional = false) :
    (∀ b, ¬ Accepted st (.constr name opt (.forceSchedule tn b))) ∧
    (∀ c, ¬ Accepted st (.constr name opt (.conditionSchedule tn c))) ∧
    (∀ t1 a, st.findTask t1 = some a → ¬ Accepted st (.constr name opt (.dependency t1 tn))) ∧
    (∀ n k, ¬ Accepted st (.constr name opt (.forceScheduleN [tn] n k))) := by
  refine ⟨fun b h => ?_, fun c h => ?_, fun t1 a ha h => ?_, fun n k h => ?_⟩ <;>
    obtain ⟨b', m, hb⟩ := stepConstr_accepted h
  · simp [State.resolve, hf, hm] at hb
  · simp [State.resolve, hf, hm] at hb
  · simp [State.resolve, hf, ha, hm] at hb
  · by_cases hn : n ≤ 0 <;> simp [State.resolve, hn, State.tasksNamed, hf, hm] at hb

theorem C18_force_apply_rejected (st : State) (name : Option String) (opt : Bool) (c : Constr) (i : Nat) (n : Int)
    (k : CountKind) (hf : st.findConstr i = some c) (hm : c.optional = false) :
    ¬ Accepted st (.constr name opt (.forceApplyN [i] n k)) := by
  intro h
  obtain ⟨b', m, hb⟩ := stepConstr_accepted h
  by_cases hn : n ≤ 0 <;> simp [State.resolve, hn, hf, hm] at hb

theorem C18_unassigned_rejected (st : State) (name : Option String) (opt : Bool) (w : Worker) (res : String)
    (hf : st.findWorker res = some w) (hb : st.busyRefs res = []) :
    (∀ ivs, ¬ Accepted st (.constr name opt (.unavailable res ivs))) ∧
    (∀ ivs k, ivs ≠ [] → ¬ Accepted st (.constr name opt (.workload res ivs k))) ∧
    (∀ d ivs m, ¬ Accepted st (.constr name opt (.distance res d ivs m))) ∧
    (∀ ivs, ¬ Accepted st (.constr name opt (.interrupted res ivs))) ∧
    (∀ ivs p s o e, ¬ Accepted st (.constr name opt (.periodicallyUnavailable res ivs p s o e))) := by
  refine ⟨fun ivs h => ?_, fun ivs k hne h => ?_, fun d ivs m h => ?_, fun ivs h => ?_, fun ivs p s o e h => ?_⟩ <;>
    obtain ⟨b', m', hr⟩ := stepConstr_accepted h
  · simp [State.resolve, State.resBusy, hf, hb] at hr
  · have : ivs.isEmpty = false := by
      cases ivs with
      | nil => exact absurd rfl hne
      | cons _ _ => rfl
    simp [State.resolve, State.resBusy, hf, hb, this] at hr
  · simp [State.resolve, State.resBusy, hf, hb] at hr
  · simp [State.resolve, hf, hb] at hr
  · simp [State.resolve, hf, hb] at hr

theorem Res.seq_rejected {r : Res} {k : State → Res} (h : r.2 ≠ none) :
    (match r with | (st', none) => k st' | r => r).2 ≠ none :=
  Res.seq_ind (P := fun r => r.2 ≠ none) h fun h' => absurd h' h

section inactive
variable {st : State} (ha : st.active = false)
include ha

theorem stepWorker_inactive (n p c co) : (stepWorker st n p c co).2 ≠ none := by
  simp [stepWorker, accepted_ite_fail, fail_ne, ha]

theorem addUnits_inactive (cname : String) : ∀ units : List (String × Int × Int), units ≠ [] →
    (addUnits st cname units).2 ≠ none
  | (n, p, c) :: _, _ => Res.seq_rejected (stepWorker_inactive ha n p (.const c) (some cname))

theorem addIndicator_inactive (cls key name bounds body) : (st.addIndicator cls key name bounds body).2 ≠ none := by
  simp [State.addIndicator, fail_ne, ha]

theorem addObjective_inactive (name target bounds weight maximize) :
    (st.addObjective name target bounds weight maximize).2 ≠ none := by
  simp [State.addObjective, fail_ne, ha]

theorem stepObjective_inactive (d : ODecl) : (stepObjective st d).2 ≠ none :=
  stepObjective_ind (P := fun r => r.2 ≠ none) (fail_ne st) (addObjective_inactive ha)
    (fun _ _ _ _ _ _ _ => Res.seq_rejected (addIndicator_inactive ha _ _ _ _ _))
    (fun _ _ _ _ _ _ => Res.seq_rejected (addIndicator_inactive ha _ _ _ _ _)) d

theorem stepConstr_inactive (name opt d) : (stepConstr st name opt d).2 ≠ none :=
  stepConstr_ind (P := fun r => r.2 ≠ none) name opt d (fail_ne st) fun h => absurd h (by simp [ha])

theorem stepCumulative_inactive (name size prod cost) : (stepCumulative st name size prod cost).2 ≠ none := by
  unfold stepCumulative
  rw [Ne, accepted_ite_fail, not_and]
  intro hsz
  cases cost with
  | const k =>
      -- `size > 1`, so there is a first unit worker to create, and that fails
      refine Res.seq_rejected (addUnits_inactive ha name _ ?_)
      simp only [Bool.or_eq_true, decide_eq_true_eq, not_or] at hsz
      simp only [ne_eq, List.map_eq_nil_iff, List.range_eq_nil]; omega
  | _ => exact fail_ne _ _

end inactive

theorem not_accepted_of_inactive {st : State} (ha : st.active = false) (ht : st.tasks = []) (d : Decl)
    (hd : ∀ n h, d ≠ .problem n h) : ¬ Accepted st d := by
  unfold Accepted
  cases d with
  | problem n h => exact absurd rfl (hd n h)
  | task => simp [step, stepTask, accepted_ite_fail, fail_ne, ha]
  | worker => exact stepWorker_inactive ha _ _ _ _
  | cumulative => exact stepCumulative_inactive ha _ _ _ _
  | select => simp [step, stepSelect, accepted_ite_fail, fail_ne, ha]
  -- `add_required_resource` does not ask for a problem: it fails because there is no task
  | require => simp [step, stepRequire, State.findTask, ht, fail]
  | constr => exact stepConstr_inactive ha _ _ _
  | buffer => simp [step, stepBuffer, fail_ne, ha]
  | indicator d =>
      simp only [step, stepIndicator]
      split
      · exact fail_ne _ _
      · exact addIndicator_inactive ha _ _ _ _ _
  | objective => exact stepObjective_inactive ha _

/-- before any problem exists, every constructor other than `SchedulingProblem` fails -/
theorem C18_before_problem (d : Decl) (hd : ∀ n h, d ≠ .problem n h) :
    ¬ Accepted {} d :=
  not_accepted_of_inactive rfl rfl d hd

end PS
