/-
  C06 — optional tasks: scheduled like mandatory ones, or inert when not scheduled.

  (a) scheduled ⇒ as mandatory: C01–C04 are stated with the guard `Scheduled ρ t`, which for an optional task is its
      scheduled flag; `C06_scheduled_as_mandatory` spells the instance out for C01.
  (b) the optional-task rules are honoured: `TaskMeaning` of OptionalTaskForceSchedule / ConditionSchedule /
      TasksDependency / ForceScheduleNOptionalTasks (C03).
  (c) unscheduled ⇒ inert, in every interpretation admitted by `initialize`: the theorems of this file, and
      `C11_unscheduled_no_assignment` (the task is reported without resources).
  That the schedules of the remaining tasks are *exactly* those of the problem with the task deleted is proved on the
  scheduling core: `Absent.lean` (the task dropped from the state) and `C06_deletion_sound` in `Renumber.lean` (the
  script without the task).  Outside that fragment it is decided by the exact ENC correspondence and the deletion
  search of the check (RUN).  Where it fails on the unchanged tree: F16, F18, F19, F24; F7, F17, F26 are repaired.
-/
import PS.Theorems.C01
import PS.Theorems.C02
import PS.Theorems.C08
namespace PS

/-- (a) a scheduled optional task obeys the timing rules of a mandatory task (C02–C04 carry the same guard
    `Scheduled ρ t` in their own statements) -/
theorem C06_scheduled_as_mandatory (cfg : Config) (st : State) (ρ : Env) (hρ : Sat ρ (initFmls cfg st))
    (t : Task) (ht : t ∈ st.tasks) (hopt : t.optional = true) (hs : ρ.b (.sched t.name) = true) :
    TaskTimingOK st.horizon t ρ :=
  C01_task_timing cfg st ρ hρ t ht (Or.inr hs)

/-- (c) an unscheduled optional task is parked at `-(task number)`, with zero length -/
theorem C06_parked (cfg : Config) (st : State) (ρ : Env) (hρ : Sat ρ (initFmls cfg st))
    (t : Task) (ht : t ∈ st.tasks) (hopt : t.optional = true) (hs : ρ.b (.sched t.name) = false) :
    t.startV ρ = -((t.num0 : Int) + 1) ∧ t.endV ρ = -((t.num0 : Int) + 1) ∧ (t.isVar = true → ρ.i (.tDur t.name) = 0) :=
  hρ.init_parked ht hopt hs

/-- (c) every worker an unscheduled task requires is busy for it only at negative instants: both ends of the busy
    interval are negative (`hdel`: delay-in below the task number, F19) -/
theorem C06_busy_parked (cfg : Config) (st : State) (ρ : Env) (hρ : Sat ρ (initFmls cfg st))
    (hwf : ∀ ev ∈ st.reqLog, ev.WF)
    (t : Task) (ht : t ∈ st.tasks) (hopt : t.optional = true) (hs : ρ.b (.sched t.name) = false)
    (ev : ReqEvent) (hev : ev ∈ st.eventsOf t.name) (r : Req) (hr : r ∈ ev.reqs)
    (hdel : r.delayIn ≤ t.num0) :
    ρ.i (.busyS r.worker t.name r.maybe) < 0 ∧ ρ.i (.busyE r.worker t.name r.maybe) < 0 := by
  obtain ⟨h1, h2, _⟩ := C06_parked cfg st ρ hρ t ht hopt hs
  rcases (C02_busy_span cfg st ρ hρ hwf t ht ev hev r hr).elim with h | h | h | h <;> omega

/-- (c) an interval that lies at negative instants does not overlap an interval of a scheduled task (which starts at a
    non-negative instant): it blocks nobody -/
theorem C06_blocks_nobody (s e s' e' : Int) (hneg : e < 0) (hpos : 0 ≤ s') : e ≤ s' ∨ e' ≤ s := by
  left; omega

/-- (c) constraints naming an unscheduled optional task hold whatever the other task does -/
theorem C06_constraint_inert (ρ : Env) (t : Task) (hopt : t.optional = true) (hs : ρ.b (.sched t.name) = false) (c : Nat) :
    (∀ v, Sat ρ ((CBody.startAt t v).raw c)) ∧ (∀ v s, Sat ρ ((CBody.startAfter t v s).raw c)) ∧
    (∀ v, Sat ρ ((CBody.endAt t v).raw c)) ∧ (∀ v s, Sat ρ ((CBody.endBefore t v s).raw c)) ∧
    (∀ u off k, Sat ρ ((CBody.precedence t u off k).raw c) ∧ Sat ρ ((CBody.precedence u t off k).raw c)) ∧
    (∀ u, Sat ρ ((CBody.startSynced t u).raw c) ∧ Sat ρ ((CBody.startSynced u t).raw c)) ∧
    (∀ u, Sat ρ ((CBody.endSynced t u).raw c) ∧ Sat ρ ((CBody.endSynced u t).raw c)) ∧
    (∀ u, Sat ρ ((CBody.dontOverlap t u).raw c) ∧ Sat ρ ((CBody.dontOverlap u t).raw c)) := by
  have hns : ¬ Scheduled ρ t := Scheduled.not_iff.2 ⟨hopt, hs⟩
  -- every one of these assertions is guarded by the scheduled flag of `t`
  simp only [CBody.raw, Sat.cons, Sat.nil, guard1_eval, guard2_eval, hns, false_implies, implies_true, and_self]

/-- (c) an unscheduled task contributes nothing to tardiness, earliness, and to the guarded sums of the flow-time /
    weighted-completion / weighted-start objectives -/
theorem C06_no_indicator_contribution (ρ : Env) (t : Task) (hopt : t.optional = true) (hs : ρ.b (.sched t.name) = false) :
    tardinessOf ρ t = 0 ∧ earlinessOf ρ t = 0 ∧
    (∀ f : Task → Term, Term.evalSum ρ (schedTimes f [t]) = 0) := by
  have hns : ¬ Scheduled ρ t := Scheduled.not_iff.2 ⟨hopt, hs⟩
  refine ⟨by simp [tardinessOf, hns], by simp [earlinessOf, hns], fun f => ?_⟩
  simp [schedTimes, hopt, sem, hs]

end PS
