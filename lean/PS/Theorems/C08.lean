/-
  C08 — reported indicator values equal their definition on the reported schedule.

  `IndicatorDef ρ b v`: `v` is the documented value of indicator body `b` on the schedule ρ.  Proved: the assertions of
  an indicator force its variable to that value, for every indicator of the problem (any number of tasks / busy
  intervals, any horizon); declared targets and bounds hold.  `IndicatorDef` says nothing of resource cost (constant
  and linear cost functions: `costDefF_sound` in SpecSound.lean with `linear_trapezoid`; polynomial: as implemented)
  nor of idle time (ENC only).  That `build_solution` reports the indicator variable is C11 / the SOL channel.
-/
import PS.Theorems.C04
import Mathlib.Tactic.Ring
namespace PS

def Task.dueV (t : Task) : Int := t.due.getD 0

noncomputable def tardinessOf (ρ : Env) (t : Task) : Int :=
  open Classical in if Scheduled ρ t then t.prio * max 0 (t.endV ρ - t.dueV) else 0

noncomputable def earlinessOf (ρ : Env) (t : Task) : Int :=
  open Classical in if Scheduled ρ t then max 0 (t.dueV - t.endV ρ) else 0

noncomputable def isTardy (ρ : Env) (t : Task) : Int := if t.endV ρ > t.dueV then 1 else 0

def busyLen (ρ : Env) (b : BusyRef) : Int := b.eV ρ - b.sV ρ

def IsMaxOf (v : Int) (xs : List Int) : Prop := v ∈ xs ∧ ∀ x ∈ xs, x ≤ v
def IsMinOf (v : Int) (xs : List Int) : Prop := v ∈ xs ∧ ∀ x ∈ xs, v ≤ x

/-- documented value of each indicator class -/
def IndicatorDef (ρ : Env) : IBody → Int → Prop
  | .expr t _ => fun v => v = t.eval ρ
  | .utilization busy (some h) => fun v => v = (100 * (busy.map (busyLen ρ)).sum) / h
  | .utilization busy none => fun v => v = (100 * (busy.map (busyLen ρ)).sum) / ρ.i .horizon
  | .nbTasksAssigned busy => fun v => v = (busy.map (fun b => if b.sV ρ > -1 then (1 : Int) else 0)).sum
  | .tardiness ts => fun v => v = (ts.map (tardinessOf ρ)).sum
  | .earliness ts => fun v => v = (ts.map (earlinessOf ρ)).sum
  | .nbTardy ts => fun v => v = (ts.map (isTardy ρ)).sum
  | .maxLateness ts => fun v => IsMaxOf v (ts.map (fun t => t.endV ρ - t.dueV))
  | .maxBuffer levels => fun v => IsMaxOf v (levels.map (fun t => t.eval ρ))
  | .minBuffer levels => fun v => IsMinOf v (levels.map (fun t => t.eval ρ))
  | _ => fun _ => True

theorem getMaximum_sat (m : Term) (xs : List Term) (ρ : Env) :
    Sat ρ (getMaximum m xs) ↔ IsMaxOf (m.eval ρ) (xs.map (fun t => t.eval ρ)) := by
  simp only [getMaximum, IsMaxOf, sem, List.mem_map, forall_exists_index, and_imp, forall_apply_eq_imp_iff₂,
    eq_comm (a := m.eval ρ)]

theorem getMinimum_sat (m : Term) (xs : List Term) (ρ : Env) :
    Sat ρ (getMinimum m xs) ↔ IsMinOf (m.eval ρ) (xs.map (fun t => t.eval ρ)) := by
  simp only [getMinimum, IsMinOf, sem, List.mem_map, forall_exists_index, and_imp, forall_apply_eq_imp_iff₂,
    eq_comm (a := m.eval ρ)]

/-! the summands of the indicators that are sums, named (`IBody.fmls_*`, by `rfl`) so that `evalSum_map` applies -/

def assignedTerm (b : BusyRef) : Term := .ite (.gt b.s (numT (-1))) (numT 1) (numT 0)

def tardTerm (t : Task) : Term :=
  .ite (.or [.le t.eVar (numT (t.due.getD 0)), .not t.schedF]) (numT 0)
    (.mul (.sub t.eVar (numT (t.due.getD 0))) (numT t.prio))

def earlTerm (t : Task) : Term :=
  .ite (.and [.ge (.sub (numT (t.due.getD 0)) t.eVar) (numT 0), t.schedF]) (.sub (numT (t.due.getD 0)) t.eVar) (numT 0)

def tardyTerm (t : Task) : Term := .ite (.gt t.eVar (numT (t.due.getD 0))) (numT 1) (numT 0)

theorem IBody.fmls_nbTasksAssigned (i : Nat) (v : Term) (busy : List BusyRef) :
    (IBody.nbTasksAssigned busy).fmls i v = [.eq v (sumOrZero (busy.map assignedTerm))] := rfl
theorem IBody.fmls_tardiness (i : Nat) (v : Term) (ts : List Task) :
    (IBody.tardiness ts).fmls i v = [.eq v (sumOrZero (ts.map tardTerm))] := rfl
theorem IBody.fmls_earliness (i : Nat) (v : Term) (ts : List Task) :
    (IBody.earliness ts).fmls i v = [.eq v (sumOrZero (ts.map earlTerm))] := rfl
theorem IBody.fmls_nbTardy (i : Nat) (v : Term) (ts : List Task) :
    (IBody.nbTardy ts).fmls i v = [.eq v (sumOrZero (ts.map tardyTerm))] := rfl

theorem assignedTerm_eval (ρ : Env) (b : BusyRef) : (assignedTerm b).eval ρ = if b.sV ρ > -1 then 1 else 0 :=
  Term.eval_ite_of_iff (by simp only [sem, gt_iff_lt]) _ _

open Classical in
theorem tardTerm_eval (ρ : Env) (t : Task) : (tardTerm t).eval ρ = tardinessOf ρ t := by
  rw [tardTerm, Term.eval_ite_of_iff (p := t.endV ρ ≤ t.dueV ∨ ¬ Scheduled ρ t) (by simp only [sem, Task.dueV])]
  simp only [tardinessOf, sem, Task.dueV]
  by_cases hs : Scheduled ρ t <;> simp only [hs, not_true, not_false_eq_true, or_false, or_true, if_true, if_false]
  split
  · rw [Int.max_eq_left (by omega), Int.mul_zero]
  · rw [Int.max_eq_right (by omega), Int.mul_comm]

open Classical in
theorem earlTerm_eval (ρ : Env) (t : Task) : (earlTerm t).eval ρ = earlinessOf ρ t := by
  rw [earlTerm, Term.eval_ite_of_iff (p := 0 ≤ t.dueV - t.endV ρ ∧ Scheduled ρ t) (by simp only [sem, Task.dueV])]
  simp only [earlinessOf, sem, Task.dueV]
  by_cases hs : Scheduled ρ t <;> simp only [hs, and_true, and_false, if_true, if_false]
  split <;> omega

theorem tardyTerm_eval (ρ : Env) (t : Task) : (tardyTerm t).eval ρ = isTardy ρ t :=
  Term.eval_ite_of_iff (by simp only [sem, gt_iff_lt, Task.dueV]) _ _

/-- **C08 (per class).** The assertions of an indicator force its variable to the documented value. -/
theorem C08_body_sound (i : Nat) (v : Term) (b : IBody) (ρ : Env) (h : Sat ρ (b.fmls i v)) :
    IndicatorDef ρ b (v.eval ρ) := by
  cases b <;> try trivial
  case expr t extra => exact (Sat.cons.1 h).1
  case utilization busy horizon =>
    have hl : ∀ l : List BusyRef, l.map (busyLen ρ) =
        l.map (fun b => ρ.i (.busyE b.worker b.task b.maybe) - ρ.i (.busyS b.worker b.task b.maybe)) := fun _ => rfl
    cases horizon <;> cases busy <;>
      simp only [IBody.fmls, List.map_nil, List.map_cons, List.isEmpty_nil, List.isEmpty_cons, if_true, if_false,
        Bool.false_eq_true, sem] at h <;>
      simp only [IndicatorDef, h, hl, List.map_nil, List.map_cons, List.sum_nil, List.sum_cons, Int.mul_comm,
        Int.zero_mul, Int.zero_ediv]
  case nbTasksAssigned | tardiness | earliness | nbTardy =>
    simpa only [IndicatorDef, IBody.fmls_nbTasksAssigned, IBody.fmls_tardiness, IBody.fmls_earliness, IBody.fmls_nbTardy,
      sumOrZero_evalSum, evalSum_map, assignedTerm_eval, tardTerm_eval, earlTerm_eval, tardyTerm_eval, Fml.eval, Sat.cons,
      Sat.nil, and_true] using h
  case maxLateness ts =>
    simpa only [IndicatorDef, List.map_map, Function.comp_def, sem, Task.dueV] using (getMaximum_sat v _ ρ).1 h
  case maxBuffer levels => exact (getMaximum_sat v levels ρ).1 h
  case minBuffer levels => exact (getMinimum_sat v levels ρ).1 h

theorem busy_len_eval (ρ : Env) (busy : List BusyRef) :
    (busy.map (fun b => (Term.sub b.e b.s).eval ρ)) = busy.map (busyLen ρ) := rfl

/-- **C08.** In every admitted interpretation every indicator variable of the problem has the documented value of its
    indicator on that very schedule. -/
theorem C08_indicator_value (cfg : Config) (st : State) (ρ : Env) (hρ : Sat ρ (initFmls cfg st)) :
    ∀ ind ∈ st.indicators, IndicatorDef ρ ind.body (ρ.i ind.var) :=
  fun ind hi => C08_body_sound ind.id (.var ind.var) ind.body ρ (hρ.init_indicator hi)

/-- **C08 (targets and bounds).** Indicator targets and bounds declared as constraints hold. -/
theorem C08_target_bounds (cfg : Config) (st : State) (ρ : Env) (hρ : Sat ρ (initFmls cfg st)) :
    ∀ c ∈ st.constrs, c.operand = false →
      (∀ v value, c.body = .indicatorTarget v value → ρ.i v = value) ∧
      (∀ v lo hi, c.body = .indicatorBounds v lo hi →
        (∀ l, lo = some l → l ≤ ρ.i v) ∧ (∀ u, hi = some u → ρ.i v ≤ u)) := by
  intro c hc hop
  -- the constraints on indicators are appended directly: optional or not, they assert their raw formulas
  have hs : Sat ρ c.asserts := hρ.init_constr hc hop
  refine ⟨fun v value hb => ?_, fun v lo hi hb => ?_⟩ <;>
    rw [Constr.asserts_of_direct (by rw [hb]; rfl), hb] at hs
  · simpa only [CBody.raw, sem] using hs
  · cases lo <;> cases hi <;> simp only [CBody.raw, sem] at hs <;>
      simp only [reduceCtorEq, false_imp_iff, implies_true, Option.some.injEq, forall_eq', and_self, hs]

/-- for a linear cost function the (doubled) trapezoid the library accumulates is exact:
    `(f(a) + f(b))·(b − a) = slope·(b² − a²) + 2·intercept·(b − a) = 2·∫ₐᵇ f` -/
theorem linear_trapezoid (s i a b : Int) : ((s * a + i) + (s * b + i)) * (b - a) = s * (b * b - a * a) + 2 * i * (b - a) := by
  ring

theorem cost_at_linear (s i : Int) (x : Term) (ρ : Env) : ((Cost.linear s i).at x).eval ρ = s * x.eval ρ + i := by
  simp [Cost.at, Term.eval, numT]

end PS
