/-
  C19 — Infeasibility diagnosis names constraints that really conflict.

  Debug mode tracks assertion number `i` of `initialize` with literal `i`, and records its owner when the owner is a
  constraint (`append_z3_assertion(…, constraint.name)`). On `unsat`, the diagnosis lists the owners of the core's
  literals that have one. Every listed id is the id of a (non-operand) constraint of the problem
  (`C19_listed_are_constraints`), and if the core is unsatisfiable (z3's contract), the assertions of the listed
  constraints together with the basic rules (everything not owned by a constraint) are unsatisfiable: the listing is
  a genuine conflict (`C19_conflict`). That debug mode does not change the verdict is `C15_tracked_equiv`. The printed
  diagnosis of the real solver is parsed by RUN, which re-solves the listed constraints plus the basic rules with a
  fresh z3.
-/
import PS.Theorems.C15
namespace PS

/-- the owner id recorded in `_map_boolrefs_to_constraints` for tracked assertion `i` -/
def ownerConstr : Owner → Option Nat
  | .constr id _ => some id
  | _ => none

/-- the constraint ids the diagnosis prints for an unsat core (a list of assertion indices) -/
def listedIds (cfg : Config) (st : State) (core : List Nat) : List Nat :=
  core.filterMap (fun i => ((initializeO cfg st)[i]?).bind (fun p => ownerConstr p.1))

def coreFormulas (cfg : Config) (st : State) (core : List Nat) : List Fml :=
  core.filterMap (fun i => ((initializeO cfg st)[i]?).map (·.2))

/-- basic rules: everything `initialize` asserts that is not owned by a constraint -/
def basicRules (cfg : Config) (st : State) : List Fml :=
  ((initializeO cfg st).filter (fun p => (ownerConstr p.1).isNone)).map (·.2)

def listedAssertions (cfg : Config) (st : State) (ids : List Nat) : List Fml :=
  ((initializeO cfg st).filter (fun p => match ownerConstr p.1 with | some id => ids.contains id | none => false)).map (·.2)

theorem owner_constr_mem (cfg : Config) (st : State) (p : Owner × Fml) (hp : p ∈ initializeO cfg st)
    (id : Nat) (h : ownerConstr p.1 = some id) : ∃ c ∈ st.constrs, c.id = id ∧ c.operand = false := by
  obtain ⟨o, f⟩ := p
  cases o <;> cases h
  -- the owner is a constraint: every part of the list but the constraints' carries an owner of another kind
  simp only [initializeO, List.mem_append, List.mem_flatMap, List.mem_map, List.mem_filter, List.mem_singleton,
    Prod.mk.injEq, reduceCtorEq, false_and, and_false, exists_false, or_false, false_or, Owner.constr.injEq] at hp
  obtain ⟨c, ⟨hc, hop⟩, _, _, ⟨rfl, _⟩, _⟩ := hp
  exact ⟨c, hc, rfl, by simpa using hop⟩

theorem mem_listedIds {cfg : Config} {st : State} {core : List Nat} {id : Nat} :
    id ∈ listedIds cfg st core ↔ ∃ i ∈ core, ∃ p, (initializeO cfg st)[i]? = some p ∧ ownerConstr p.1 = some id := by
  simp only [listedIds, List.mem_filterMap, Option.bind_eq_some_iff]

theorem mem_coreFormulas {cfg : Config} {st : State} {core : List Nat} {a : Fml} :
    a ∈ coreFormulas cfg st core ↔ ∃ i ∈ core, ∃ p, (initializeO cfg st)[i]? = some p ∧ p.2 = a := by
  simp only [coreFormulas, List.mem_filterMap, Option.map_eq_some_iff]

/-- **C19 (a).** Everything the diagnosis lists is a constraint of the problem. -/
theorem C19_listed_are_constraints (cfg : Config) (st : State) (core : List Nat) :
    ∀ id ∈ listedIds cfg st core, ∃ c ∈ st.constrs, c.id = id ∧ c.operand = false := by
  intro id hid
  obtain ⟨i, _, p, hg, ho⟩ := mem_listedIds.1 hid
  exact owner_constr_mem cfg st p (List.mem_of_getElem? hg) id ho

theorem coreFormulas_subset (cfg : Config) (st : State) (core : List Nat) :
    ∀ a ∈ coreFormulas cfg st core, a ∈ basicRules cfg st ++ listedAssertions cfg st (listedIds cfg st core) := by
  intro a ha
  obtain ⟨i, hi, p, hg, rfl⟩ := mem_coreFormulas.1 ha
  have hpm : p ∈ initializeO cfg st := List.mem_of_getElem? hg
  rw [List.mem_append]
  cases ho : ownerConstr p.1 with
  | none => exact .inl (List.mem_map.2 ⟨p, List.mem_filter.2 ⟨hpm, by simp [ho]⟩, rfl⟩)
  | some id =>
      refine .inr (List.mem_map.2 ⟨p, List.mem_filter.2 ⟨hpm, ?_⟩, rfl⟩)
      simp only [ho, List.contains_iff_mem]
      exact mem_listedIds.2 ⟨i, hi, p, hg, ho⟩

/-- **C19 (b).** If the core has no model, neither have the basic rules together with the assertions of the listed
    constraints: every formula of the core is one of them (`coreFormulas_subset`). -/
theorem C19_conflict (cfg : Config) (st : State) (core : List Nat)
    (hcore : ¬ ∃ ρ, Sat ρ (coreFormulas cfg st core)) :
    ¬ ∃ ρ, Sat ρ (basicRules cfg st ++ listedAssertions cfg st (listedIds cfg st core)) :=
  fun ⟨ρ, hρ⟩ => hcore ⟨ρ, hρ.sub (coreFormulas_subset cfg st core)⟩

end PS
