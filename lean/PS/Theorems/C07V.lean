/-
  C07 on schedules: when the incremental loop ends on `unsat`, the value of the returned model is no worse than the
  value of the objective's indicator on every valid schedule of the problem. `C07_optimal` says it for admitted
  interpretations; a complete encoding turns valid schedules into admitted interpretations (`Complete.optimal`, for
  any such encoding). `C07_optimal_valid` is the core fragment (`C05_complete_core`), where the witness `envOf` gives
  the indicator its defined value.
-/
import PS.Theorems.C07
import PS.Theorems.Exact
namespace PS

theorem Complete.optimal {A : List Fml} {V : Sched → Prop} {enc : Sched → Env} (h : Complete A V enc) (g : Goal)
    (obs : Sched → Int) (hobs : ∀ σ, V σ → (enc σ).i g.target = obs σ) (mi : Option Nat) (mt : Int)
    (answers : List (Answer × Int))
    (hcons : ∀ p ∈ (incLoop A g mi mt answers {}).seen, ConsistentAns p.1 p.2)
    (hexit : (incLoop A g mi mt answers {}).exit = "unsat") :
    let f := incLoop A g mi mt answers {}
    (f.best = none → ¬ ∃ σ, V σ) ∧
    (∀ ρ, f.best = some ρ → ∀ σ, V σ → g.noWorse (ρ.i g.target) (obs σ)) := by
  obtain ⟨h1, h2⟩ := C07_optimal A g mi mt answers hcons hexit
  exact ⟨fun hb ⟨σ, hv⟩ => h1 hb ⟨_, h σ hv⟩, fun ρ hb σ hv => hobs σ hv ▸ h2 ρ hb _ (h σ hv)⟩

theorem C07_optimal_valid (cfg : Config) (st : State) (hc : InCore st) (g : Goal) (mi : Option Nat) (mt : Int)
    (answers : List (Answer × Int))
    (hcons : ∀ p ∈ (incLoop (initFmls cfg st) g mi mt answers {}).seen, ConsistentAns p.1 p.2)
    (hexit : (incLoop (initFmls cfg st) g mi mt answers {}).exit = "unsat") :
    let f := incLoop (initFmls cfg st) g mi mt answers {}
    (f.best = none → ¬ ∃ σ, Valid st σ) ∧
    (∀ ρ, f.best = some ρ → ∀ σ, Valid st σ → g.noWorse (ρ.i g.target) ((envOf st σ).i g.target)) :=
  Complete.optimal (C05_complete_core cfg st · hc) g _ (fun _ _ => rfl) mi mt answers hcons hexit

end PS
