/-
  C17 — The Gantt chart draws exactly the reported assignments at the right place.

  `ganttBars s taskMode` is the list of bars `render_gantt_matplotlib` draws (row, left edge, width,
  label; coordinates exact, in units of 1/20), tied to the matplotlib artists by the OUT channel.
  * `C17_resource_bars` – resource view: bar k of resource i is assignment k of resource i, on row
    i, from its start to its end (`mkBar_span`);
  * `C17_task_bars`     – task view: one bar per scheduled task, in order, none for the others;
  * `C17_marker_centred`– a zero-length item is a marker of width 1/10 centred on its instant;
  * `C17_buffer_steps`  – segment k of a buffer spans `[x_k, x_{k+1}]` at `level_k`, with
    `x = 0 :: change times ++ [horizon]`.
-/
import PS.Theorems.C16
namespace PS

theorem mkBar_span (row : Nat) (start length : Int) (label : String) (h : length ≠ 0) :
    (mkBar row start length label).row = row ∧ (mkBar row start length label).x20 = 20 * start ∧
    (mkBar row start length label).w20 = 20 * length ∧ (mkBar row start length label).label = label := by
  unfold mkBar
  have : (length == 0) = false := by simpa using h
  simp [this]

/-- **C17 (marker).** left edge + half the width = the instant -/
theorem C17_marker_centred (row : Nat) (start : Int) (label : String) :
    let b := mkBar row start 0 label
    2 * b.x20 + b.w20 = 2 * (20 * start) ∧ b.w20 = 2 := by
  simp [mkBar]
  omega

theorem enumFrom_map {α β} (f : Nat × α → β) (l : List α) (k : Nat) :
    (enumFrom k l).map f = (List.range l.length).zipWith (fun i x => f (k + i, x)) l := by
  apply List.ext_getElem?
  intro i
  simp only [List.getElem?_map, getElem?_enumFrom, List.getElem?_zipWith]
  by_cases h : i < l.length <;> simp [h]

/-- **C17 (task view).** Exactly one bar per scheduled task, none for unscheduled ones. -/
theorem C17_task_bars (s : Solution) :
    (ganttBars s true).length = (s.tasks.filter (·.scheduled)).length ∧
    ganttRowLabels s true = (s.tasks.filter (·.scheduled)).map (·.name) := by
  constructor
  · simp [ganttBars, effectiveTaskMode, enumFrom_length]
  · simp [ganttRowLabels, effectiveTaskMode]

/-- the k-th bar of the task view is the k-th scheduled task, on row k, from its start over its
    duration -/
theorem C17_task_bar_at (s : Solution) (k : Nat) (t : TaskSol) (h : (s.tasks.filter (·.scheduled))[k]? = some t) :
    (ganttBars s true)[k]? =
      some (mkBar k t.start t.duration (if t.assigned.isEmpty then emptySet else ",".intercalate t.assigned)) := by
  simp only [ganttBars, effectiveTaskMode, Bool.true_or, if_true, List.getElem?_map, getElem?_enumFrom, h,
    Option.map_some, Nat.zero_add]

/-- **C17 (resource view).** The bars are, resource by resource in row order, the reported
    assignments, each drawn on the row of its resource from its start to its end. -/
theorem C17_resource_bars (s : Solution) (hres : s.resources ≠ []) :
    ganttBars s false =
      (enumFrom 0 s.resources).flatMap (fun p => p.2.assignments.map (fun a => mkBar p.1 a.2.1 (a.2.2 - a.2.1) a.1)) ∧
    ganttRowLabels s false = s.resources.map (·.name) := by
  have : s.resources.isEmpty = false := by simpa using hres
  constructor
  · simp [ganttBars, effectiveTaskMode, this]
  · simp [ganttRowLabels, effectiveTaskMode, this]

theorem C17_resource_bar_count (s : Solution) (hres : s.resources ≠ []) :
    (ganttBars s false).length = (s.resources.map (fun r => r.assignments.length)).sum := by
  rw [(C17_resource_bars s hres).1]
  generalize (0 : Nat) = k
  induction s.resources generalizing k with
  | nil => simp [enumFrom]
  | cons r rs ih => simp [enumFrom, ih]

theorem C17_buffer_steps (horizon : Int) (b : BufSol) (k : Nat) (y : Int) (h : b.levels[k]? = some y) :
    (bufferSteps horizon b)[k]? =
      some (((0 :: b.times) ++ [horizon]).getD k 0, ((0 :: b.times) ++ [horizon]).getD (k + 1) 0, y) := by
  simp only [bufferSteps, List.getElem?_map, getElem?_enumFrom, h, Option.map_some, Nat.zero_add]

end PS
