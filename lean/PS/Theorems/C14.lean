/-
  C14 — Meaning is independent of names, declaration order and earlier problems.

  * `C14_fresh_problem` – a new `SchedulingProblem` resets every registry the encoders read: the
    state after `problem n h` does not depend on the state before (no influence of earlier problems
    built in the same interpreter; the model has no other state);
  * `C14_run_after_problem` – hence a script that starts with a problem declaration produces the
    same state whatever was built before it;
  * `C14_valid_order_free` – the documented meaning (`Valid`) quantifies over the registries as
    *sets*: it is invariant under permutations of tasks, workers and constraints that keep ids and
    resolved references (with `C05_complete_core`: on the core fragment a schedule valid for one
    declaration order is admitted for every other);
  * `Fml.eval` depends on a name only through the interpretation (`eval_congr`): the encoders
    build variables from names and never inspect them otherwise (ENC on renamed scripts, RUN).
  That the encoder, not only the meaning, is order-free on the core fragment is `C14_core_verdict` (Exact.lean); the
  order of task declarations, which changes the formulas, is Renumber.lean. Invariance of `step` / `initFmls` under
  renaming is not proved: renaming and permutation invariance of the *real* code are decided by the RUN search of the
  check (renamed and permuted builds compared with z3, both directions; histories of unrelated problems).
-/
import PS.Theorems.C05
namespace PS

theorem C14_fresh_problem (st1 st2 : State) (n : String) (h : Option Int)
    (hok : (step st1 (.problem n h)).2 = none) :
    (step st1 (.problem n h)).1 = (step st2 (.problem n h)).1 ∧ (step st2 (.problem n h)).2 = none := by
  have hpos := stepProblem_accepted.1 hok
  show (stepProblem st1 n h).1 = (stepProblem st2 n h).1 ∧ (stepProblem st2 n h).2 = none
  rw [stepProblem_of_pos hpos, stepProblem_of_pos hpos]
  exact ⟨rfl, rfl⟩

theorem run_append (ds1 ds2 : List Decl) : run (ds1 ++ ds2) = ds2.foldl (fun st d => (step st d).1) (run ds1) :=
  List.foldl_append ..

theorem C14_run_after_problem (before1 before2 : List Decl) (n : String) (h : Option Int) (rest : List Decl)
    (hok : ∀ H, h = some H → 0 < H) :
    run (before1 ++ .problem n h :: rest) = run (before2 ++ .problem n h :: rest) := by
  simp only [run_append, List.foldl_cons, step, stepProblem_of_pos hok]

/-- **C14 (declaration order, meaning).** `Valid` reads the task, worker and constraint registries by membership
    only: two states with the same members, and the same horizon, per-name requirement views, witness `envOf` and
    constraint meanings, have the same valid schedules. -/
theorem C14_valid_order_free (st st' : State) (σ : Sched)
    (hh : st.horizon = st'.horizon)
    (ht : ∀ t, t ∈ st.tasks ↔ t ∈ st'.tasks)
    (hw : ∀ w, w ∈ st.workers ↔ w ∈ st'.workers)
    (hc : ∀ c, c ∈ st.constrs ↔ c ∈ st'.constrs)
    (hreq : ∀ n, st.reqsOf n = st'.reqsOf n) (hev : ∀ n, st.eventsOf n = st'.eventsOf n)
    (hbusy : ∀ n, st.busyOf n = st'.busyOf n)
    (henv : envOf st σ = envOf st' σ)
    (hwork : ∀ t, workTerms st t = workTerms st' t)
    (hcm : ∀ b, CoreMeaning st σ b ↔ CoreMeaning st' σ b) :
    Valid st σ → Valid st' σ := by
  intro v
  refine ⟨v.horizon_nonneg, ?_, ?_, ?_, ?_, ?_, ?_, ?_⟩
  · intro H hH; exact v.horizon_le H (hh ▸ hH)
  · intro t htm; exact v.tasks t ((ht t).2 htm)
  · intro t htm r hr; exact v.dyn t ((ht t).2 htm) r (hreq t.name ▸ hr)
  · intro t htm s rs hmem; exact v.counts t ((ht t).2 htm) s rs (hev t.name ▸ hmem)
  · intro w hwm; rw [← hbusy, ← henv]; exact v.no_overlap w ((hw w).2 hwm)
  · intro t htm h1 h2 h3
    rw [← hwork, ← henv]
    exact v.work t ((ht t).2 htm) h1 (hwork t ▸ h2) h3
  · intro c hcm' hop happ
    exact (hcm c.body).1 (v.constrs c ((hc c).2 hcm') hop happ)

theorem eval_congr (ρ ρ' : Env) (hi : ρ.i = ρ'.i) (hb : ρ.b = ρ'.b) (hf : ρ.f = ρ'.f) (ha : ρ.a = ρ'.a)
    (hp : ρ.p = ρ'.p) (a : Fml) : a.eval ρ ↔ a.eval ρ' := by
  obtain ⟨_, _, _, _, _⟩ := ρ
  obtain ⟨_, _, _, _, _⟩ := ρ'
  cases hi; cases hb; cases hf; cases ha; cases hp
  rfl

end PS
