/-
  The spec twins the driver prints for the SEM channel are consequences of what `initialize` asserts:
  `Sat ρ (initFmls cfg st) → Sat ρ (specCxx st)` for C01, C02, C03, C04, C08, C10 (`C09_spec_sound` is in C09.lean), and
  all together in `SEM_twins_sound`.  So the formula whose negation the harness conjoins with the REAL assertions is,
  clause for clause, a conclusion of the property's theorems: if the real code emits the model's assertions (ENC), SEM
  cannot fire; if SEM fires, the real code admits a schedule that the theorems exclude for the model.
-/
import PS.Theorems.C01
import PS.Theorems.C02
import PS.Theorems.C03
import PS.Theorems.C04
import PS.Theorems.C08
import PS.Theorems.C09
import PS.Theorems.C10
import PS.Spec.Twins
namespace PS

@[sem] theorem durT_eval (t : Task) (ρ : Env) : t.durT.eval ρ = t.durV ρ := by
  unfold Task.durT Task.durV
  cases t.kind <;> rfl

@[sem] theorem Task.durOKF_sat (t : Task) (ρ : Env) : Sat ρ t.durOKF ↔ t.DurOK (t.durV ρ) := by
  unfold Task.durOKF Task.DurOK Task.durV
  rcases t.kind with d | _ | ⟨minD, _ | m, _ | l⟩ <;>
    simp only [sem, reduceCtorEq, false_imp_iff, implies_true, Option.some.injEq, forall_eq', exists_eq_right',
      and_assoc]

theorem timingF_sound {t : Task} {ρ : Env} {H : Option Int} (ok : Scheduled ρ t → TaskTimingOK H t ρ) :
    t.timingF.eval ρ := by
  unfold Task.timingF
  simp only [sem]
  intro hs
  obtain ⟨h0, hh, -, hd, hok, hr, hdl⟩ := ok hs
  refine ⟨⟨⟨⟨h0, hh, hd⟩, hok⟩, ?_⟩, ?_⟩
  · rcases hrel : t.release with _ | r <;> simp only [sem]
    exact hr r hrel
  · rcases hdue : t.due with _ | d <;> simp only [sem, implies_true]
    exact hdl d hdue

theorem C01_spec_sound (cfg : Config) (st : State) (ρ : Env) (hρ : Sat ρ (initFmls cfg st)) :
    Sat ρ (specC01 st) := by
  simp only [specC01, sem]
  -- the last clause is the problem's own assertion
  exact ⟨fun t ht => timingF_sound (C01_task_timing cfg st ρ hρ t ht), hρ.init_problem⟩

theorem evalSum_indicator {α} (ρ : Env) (l : List α) (f : α → Fml) :
    Term.evalSum ρ (l.map (fun x => Term.ite (f x) (numT 1) (numT 0))) = (Fml.count ρ (l.map f) : Int) := by
  induction l with
  | nil => rfl
  | cons x xs ih =>
      simp only [List.map_cons, Term.evalSum, Fml.count, ih, Term.eval, numT_eval]
      split <;> omega

@[sem] theorem countF_eval (ρ : Env) (k : CountKind) (flags : List Fml) (n : Nat) :
    (countF k flags n).eval ρ ↔ CountOK k (Fml.count ρ flags) n := by
  have hs : Term.evalSum ρ (flags.map (fun f => Term.ite f (numT 1) (numT 0))) = (Fml.count ρ flags : Int) := by
    simpa only [List.map_id'] using evalSum_indicator ρ flags (fun f => f)
  cases k <;> simp only [countF, CountOK, Fml.eval, sumOrZero_evalSum, hs, numT_eval] <;> omega

theorem noOverlapSpec_sat (ρ : Env) (w : String) (l : List (String × Bool)) :
    Sat ρ (noOverlapSpec w l) ↔ l.Pairwise (Disjoint2 ρ w) := by
  induction l with
  | nil => simp only [noOverlapSpec, Sat.nil, List.Pairwise.nil]
  | cons x xs ih =>
      simp only [noOverlapSpec, List.pairwise_cons, ← ih, sem, Disjoint2, Prod.forall]
      refine and_congr_left fun _ => forall₃_congr fun a b _ => ?_
      omega

@[sem] theorem spanF_eval (t : Task) (r : Req) (ρ : Env) : (r.spanF t).eval ρ ↔ ReqSpanOK t r ρ := by
  unfold Req.spanF ReqSpanOK
  rcases r.sel with _ | s
  · cases r.dynamic <;> simp only [Bool.false_eq_true, if_false, if_true, sem]
  · simp only [sem, Bool.not_eq_true]

/-- `hwf`: requirement events as `step` creates them -/
theorem C02_spec_sound (cfg : Config) (st : State) (ρ : Env) (hρ : Sat ρ (initFmls cfg st))
    (hwf : ∀ ev ∈ st.reqLog, ev.WF) : Sat ρ (specC02 st) := by
  simp only [specC02, sem]
  refine ⟨⟨fun w hw => (noOverlapSpec_sat ρ _ _).2 (C02_no_overlap cfg st ρ hρ w hw), fun t ht ev hev => ⟨?_, ?_⟩⟩,
    fun t ht => ?_⟩
  · exact fun r hr => C02_busy_span cfg st ρ hρ hwf t ht ev hev r hr
  · -- the count clause says what the selection's own assertion says
    have hev' := ((ev.fmls_sat t ρ).1 (hρ.init_req ht hev)).2
    rcases ev with _ | ⟨t', s, rs, _ | _⟩ <;> simp only [sem]
    exact s.count_flags ρ ▸ hev' _ s rs rfl
  · have := (workAmount_sat st t ρ).1 (hρ.init_work ht)
    simp only [Bool.and_eq_true, decide_eq_true_eq, Bool.not_eq_true', List.isEmpty_eq_false_iff, sem, and_imp,
      implies_true]
    exact this

@[sem] theorem ordF_eq : ordF = ordRel := by funext k a b; cases k <;> rfl

@[sem] theorem sched2_eval (t1 t2 : Task) (f : Fml) (ρ : Env) :
    (sched2 t1 t2 f).eval ρ ↔ (Scheduled ρ t1 → Scheduled ρ t2 → f.eval ρ) := by
  simp only [sched2, sem, and_imp]

@[sem] theorem consecutiveF_eq : consecutiveF = consecutive := by
  funext k ts
  induction ts with
  | nil => rfl
  | cons a rest ih => cases rest with
    | nil => rfl
    | cons b r => simp only [consecutiveF, consecutive, ih, ordF_eq]

@[sem] theorem groupWindowF_sat (ρ : Env) (ts : List Task) (window : Option (Int × Int)) (len : Int) :
    Sat ρ (groupWindowF ts window len) ↔ GroupWindowOK ρ ts window len := by
  rcases window with _ | ⟨lo, hi⟩ <;> simp only [groupWindowF, GroupWindowOK, sem]

@[sem] theorem insideAny_eval (ρ : Env) (t : Task) (ivs : List (Int × Int)) :
    (insideAny t ivs).eval ρ ↔ InsideAny ρ t ivs := by
  simp only [insideAny, InsideAny, sem]

theorem count_insideAny (ρ : Env) (ivs : List (Int × Int)) (ts : List Task) :
    Fml.count ρ (ts.map (fun t => insideAny t ivs)) = countInside ρ ts ivs :=
  count_map ρ ts _ _ (fun t _ => by simp only [insideAny_eval, decide_eq_true_eq])

theorem count_schedF (ρ : Env) (ts : List Task) :
    Fml.count ρ (ts.map (fun t => Fml.bvar (.sched t.name))) = countSched ρ ts := count_map_bvar ρ _ ts

theorem taskMeaningF_sound (c : Nat) (b : CBody) (ρ : Env) (h : Sat ρ (b.raw c)) (f : Fml)
    (hf : b.taskMeaningF = some f) : f.eval ρ := by
  have hm := C03_raw_sound c b ρ h
  -- `cases hf` computes the clause: it closes the classes that have none and names it for the others
  cases b <;> try cases hf
  case scheduleN ts n ivs kind =>
    -- `TaskMeaning` is silent on this class: the clause is `C03_scheduleN_lower`
    have hlow := fun hk => C03_scheduleN_lower c ts n ivs kind ρ hk h
    rw [← count_insideAny] at hlow
    cases kind <;> cases hf <;>
      simp only [Fml.eval, sumOrZero_evalSum, evalSum_indicator, numT_eval] <;> have := hlow (by simp) <;> omega
  case contiguous ts =>
    simp only [sem]
    exact fun hco a ha b hb hab h0 => ContiguousOK_pairwise ρ ts hm hco a ha b hb hab.1 hab.2 h0.1 h0.2
  all_goals simp only [TaskMeaning] at hm; simp only [sem, Fml.eval_ite] at hm ⊢
  case startAfter t v strict | endBefore t v strict => cases strict <;> simpa using hm
  case orderedGroup ts window len kind => exact ⟨hm.1, (consecutive_sat kind ρ ts).2 hm.2⟩
  case forceSchedule t b => cases b <;> simpa using hm
  case startAt | endAt | precedence | startSynced | endSynced | dontOverlap | unorderedGroup | conditionSchedule
      | dependency | forceScheduleN => exact hm

/-- the shape shared by the twins of C03, C04 and C10: each non-operand constraint is read through `M`, under its
    applied flag if it is optional.  Such a twin follows from `initialize` as soon as every clause of `M` follows
    from the raw assertions of its constraint. -/
theorem constrTwin_sound (M : CBody → Option Fml)
    (hM : ∀ (c : Nat) (b : CBody) (ρ : Env), Sat ρ (b.raw c) → ∀ f, M b = some f → f.eval ρ)
    {cfg : Config} {st : State} {ρ : Env} (hρ : Sat ρ (initFmls cfg st)) :
    Sat ρ ((st.constrs.filter (fun c => !c.operand)).filterMap (fun c =>
      match M c.body with
      | some f => some (if c.optional then Fml.imp (.bvar (.applied c.id)) f else f)
      | none => none)) := by
  rw [Sat_filterMap]
  intro c hc a hca
  obtain ⟨hcm, hop⟩ := List.mem_filter.1 hc
  split at hca <;> cases hca
  rename_i f hf
  have key : (c.optional = true → ρ.b (.applied c.id) = true) → f.eval ρ :=
    fun happ => hM c.id c.body ρ (hρ.init_raw hcm (by simpa using hop) happ) f hf
  rw [Fml.eval_ite]
  exact ⟨fun _ happ => key fun _ => happ, fun ho => key fun h => absurd h ho⟩

theorem C03_spec_sound (cfg : Config) (st : State) (ρ : Env) (hρ : Sat ρ (initFmls cfg st)) :
    Sat ρ (specC03 st) := constrTwin_sound _ taskMeaningF_sound hρ

@[sem] theorem maxT_eval (a b : Term) (ρ : Env) : (maxT a b).eval ρ = max (a.eval ρ) (b.eval ρ) := by
  simp only [maxT, sem]; omega

@[sem] theorem minT_eval (a b : Term) (ρ : Env) : (minT a b).eval ρ = min (a.eval ρ) (b.eval ρ) := by
  simp only [minT, sem]; omega

@[sem] theorem overlapT_eval (b : BusyRef) (lo hi : Int) (ρ : Env) :
    (overlapT b lo hi).eval ρ = overlapLen (b.sV ρ) (b.eV ρ) lo hi := by
  simp only [overlapT, overlapLen, sem]

theorem interruptedF_sat (b : BusyRef) (t : Task) (ivs : List (Int × Int)) (ρ : Env) :
    Sat ρ (interruptedF b t ivs) ↔ InterruptedOK ρ (b.sV ρ) (b.eV ρ) t ivs := by
  unfold InterruptedOK interruptedF
  rcases t.kind with d | _ | ⟨minD, _ | m, al⟩ <;>
    simp only [sem, overlapSum, reduceCtorEq, false_imp_iff, implies_true, Option.some.injEq, forall_eq',
      and_assoc]

@[sem] theorem repsInsideT_eval (b : BusyRef) (lo hi off p : Int) (ρ : Env) :
    (repsInsideT b lo hi off p).eval ρ = repsInside (b.sV ρ) (b.eV ρ) lo hi off p := by
  simp only [repsInsideT, repsInside, sem]

@[sem] theorem periodShift_eval (x : Term) (off p : Int) (ρ : Env) :
    (periodShift x off p).eval ρ = off + p * ((x.eval ρ - off) / p) := by
  simp only [periodShift, sem]

theorem periodicInterruptedF_sound (b : BusyRef) (t : Task) (ivs : List (Int × Int)) (p start off : Int)
    (end_ : Option Int) (ρ : Env)
    (h : ¬ PeriodicMasked ρ b start end_ → PeriodicInterruptedOK ρ (b.sV ρ) (b.eV ρ) t ivs p off) :
    Sat ρ (periodicInterruptedF b t ivs p start off end_) := by
  unfold periodicInterruptedF
  by_cases hm : PeriodicMasked ρ b start end_
  · -- every clause is or-ed with the masks
    rcases t.kind with d | _ | ⟨minD, _ | m, al⟩ <;>
      simp only [sem, List.cons_append, List.nil_append, hm, or_true, implies_true, and_self]
  · have h := h hm
    unfold PeriodicInterruptedOK at h
    rcases hk : t.kind with d | _ | ⟨minD, _ | m, al⟩ <;>
      simp only [hk, BusyRef.sV, BusyRef.eV, periodicOverlapSum] at h <;>
      simp only [sem, List.cons_append, List.nil_append, hm, or_false]
    case fixed | zero => exact fun iv hiv => by have := h iv hiv; omega
    · refine ⟨fun iv hiv => ⟨?_, ?_⟩, fun hle => (h.2 hle).1⟩
      · have := (h.1 iv hiv ((ρ.i (.busyS b.worker b.task b.maybe) - off) / p)).1; omega
      · have := (h.1 iv hiv ((ρ.i (.busyE b.worker b.task b.maybe) - off) / p)).2; omega
    · refine ⟨⟨fun iv hiv => ⟨?_, ?_⟩, fun hle => (h.2 hle).1⟩, fun hle => (h.2 hle).2 m rfl⟩
      · have := (h.1 iv hiv ((ρ.i (.busyS b.worker b.task b.maybe) - off) / p)).1; omega
      · have := (h.1 iv hiv ((ρ.i (.busyE b.worker b.task b.maybe) - off) / p)).2; omega

@[sem] theorem comonotoneF_eval (ρ : Env) (busy : List BusyRef) : (comonotoneF busy).eval ρ ↔ Comonotone ρ busy := by
  simp only [comonotoneF, Comonotone, sem]

@[sem] theorem succF_eval (ρ : Env) (busy : List BusyRef) (a b : BusyRef) :
    (succF busy a b).eval ρ ↔ (a.sV ρ < b.sV ρ ∧ ∀ c ∈ busy, ¬ (a.sV ρ < c.sV ρ ∧ c.sV ρ < b.sV ρ)) := by
  simp only [succF, sem]

theorem gapTwinF_sound (ρ : Env) (busy : List BusyRef) (P : Int → Int → Prop) (mk : Term → Term → Fml)
    (hmk : ∀ a b : BusyRef, P (a.eV ρ) (b.sV ρ) → (mk a.e b.s).eval ρ) (h : GapsOK ρ busy P) :
    (gapTwinF busy mk).eval ρ := by
  simp only [gapTwinF, Fml.eval, evalAll_eq_Sat, Sat_flatMap, Sat_map, comonotoneF_eval, succF_eval]
  exact fun hco a ha b hb hs => hmk a b (GapsOK_pairwise ρ busy P h hco a ha b hb hs.1 hs.2)

theorem resMeaningF_sound (c : Nat) (b : CBody) (ρ : Env) (h : Sat ρ (b.raw c)) (f : Fml)
    (hf : b.resMeaningF = some f) : f.eval ρ := by
  have hm := C04_raw_sound c b ρ h
  cases b <;> try cases hf
  case periodicallyUnavailable busy ivs period start offset end_ =>
    -- `ResMeaning` is silent on this class: the clause is `C04_periodic_own_period`
    have hp := C04_periodic_own_period c busy ivs period start offset end_ ρ h
    simp only [sem, List.cons_append, List.nil_append] at hp ⊢
    intro iv hiv bz hbz
    by_cases hmask : PeriodicMasked ρ bz start end_
    · -- the twin writes the body of `periodicMasks` out
      have hM := (periodicMasks_evalAny ρ bz start end_).2 hmask
      unfold periodicMasks at hM
      exact Or.inr (Or.inr hM)
    · have := hp bz hbz iv hiv hmask
      omega
  case interrupted ws ivs =>
    simp only [CBody.resMeaningF] at hf
    split at hf <;> cases hf
    rename_i hwf
    simp only [Fml.eval, evalAll_eq_Sat, Sat_flatMap, interruptedF_sat]
    exact hm (fun iv hiv => by simpa using (List.all_eq_true.1 hwf) iv hiv)
  case periodicallyInterrupted busy ivs period start offset end_ =>
    simp only [CBody.resMeaningF] at hf
    split at hf <;> cases hf
    rename_i hwf
    simp only [Bool.and_eq_true, decide_eq_true_eq, List.all_eq_true] at hwf
    simp only [Fml.eval, evalAll_eq_Sat, Sat_flatMap]
    exact fun bt hbt => periodicInterruptedF_sound bt.1 bt.2 ivs period start offset end_ ρ
      (hm hwf.1 (fun iv hiv => ⟨(hwf.2 iv hiv).1.1, (hwf.2 iv hiv).1.2, (hwf.2 iv hiv).2⟩) bt hbt)
  all_goals simp only [ResMeaning] at hm
  case unavailable busy ivs =>
    simp only [sem] at hm ⊢
    exact fun iv hiv b hb => hm b hb iv hiv
  case workload busy ivs kind =>
    simp only [sem, busyInside] at hm ⊢
    intro iv hiv
    have := hm iv hiv
    cases kind <;> simpa only [cmpHolds, Fml.eval, sem] using this
  case nonDelay busy =>
    exact gapTwinF_sound ρ busy _ _ (fun a b hP => by simpa only [sem, and_imp] using hP) hm
  case distance busy d ivs mode =>
    exact gapTwinF_sound ρ busy _ _ (fun a b hP => by simpa only [distanceGap, sem] using hP) hm
  case sameWorkers s1 s2 =>
    simp only [sem, List.mem_filter, List.contains_iff_mem, and_imp]
    exact fun w h1 h2 => by rw [hm w h1 h2]
  case distinctWorkers s1 s2 =>
    simp only [sem, List.mem_filter, List.contains_iff_mem, and_imp]
    exact hm

theorem C04_spec_sound (cfg : Config) (st : State) (ρ : Env) (hρ : Sat ρ (initFmls cfg st)) :
    Sat ρ (specC04 st) := constrTwin_sound _ resMeaningF_sound hρ

@[sem] theorem allOf_eval (ρ : Env) (os : List (List Fml)) : (allOf os).eval ρ ↔ ∀ o ∈ os, Holds o ρ := by
  simp only [allOf, sem, Holds]

theorem meaningF_sound (c : Nat) (b : CBody) (ρ : Env) (h : Sat ρ (b.raw c)) (f : Fml)
    (hf : b.meaningF = some f) : f.eval ρ := by
  cases b <;> cases hf
  case forceApplyN cs n k => exact (countF_eval ..).2 ((pbFun_eval ..).1 (Sat.cons.1 h).1)
  all_goals simpa only [CBody.raw, sem, Holds] using h

theorem C10_spec_sound (cfg : Config) (st : State) (ρ : Env) (hρ : Sat ρ (initFmls cfg st)) :
    Sat ρ (specC10 st) := constrTwin_sound _ meaningF_sound hρ

/-- the twin of a maximum / minimum indicator is the conjunction of what `get_maximum` / `get_minimum` assert -/
theorem maxOfF_sound (v : Term) (xs : List Term) (ρ : Env) (h : IsMaxOf (v.eval ρ) (xs.map (fun t => t.eval ρ))) :
    (maxOfF v xs).eval ρ := (evalAll_eq_Sat ρ _).2 ((getMaximum_sat v xs ρ).2 h)

theorem minOfF_sound (v : Term) (xs : List Term) (ρ : Env) (h : IsMinOf (v.eval ρ) (xs.map (fun t => t.eval ρ))) :
    (minOfF v xs).eval ρ := (evalAll_eq_Sat ρ _).2 ((getMinimum_sat v xs ρ).2 h)

open Classical in
/-- the clauses of the C08 twin that `IndicatorDef` covers -/
theorem defF_sound (v : Term) (b : IBody) (ρ : Env) (h : IndicatorDef ρ b (v.eval ρ)) (f : Fml)
    (hnc : ∀ items, b ≠ .resourceCost items) (hf : b.defF v = some f) : f.eval ρ := by
  cases b
  case resourceCost items => exact absurd rfl (hnc items)
  case utilization busy horizon =>
    have hl : busy.map (fun b => b.e.eval ρ - b.s.eval ρ) = busy.map (busyLen ρ) := rfl
    cases horizon <;> cases hf <;>
      simpa only [IndicatorDef, Fml.eval, Term.eval, numT_eval, sumOrZero_evalSum, evalSum_map, hl] using h
  all_goals cases hf
  all_goals simp only [IndicatorDef] at h
  case expr t extra => exact h
  case nbTasksAssigned busy =>
    have e : ∀ b : BusyRef, (Term.ite (.ge b.s (numT 0)) (numT 1) (numT 0)).eval ρ = if b.sV ρ > -1 then 1 else 0 :=
      fun b => Term.eval_ite_of_iff (by simp only [sem, BusyRef.sV]; omega) _ _
    simpa only [Fml.eval, sumOrZero_evalSum, evalSum_map, e] using h
  case tardiness ts =>
    have e : ∀ t : Task, (Term.ite t.schedF (.mul (numT t.prio) (maxT (numT 0) (.sub t.eVar (numT (t.due.getD 0)))))
        (numT 0)).eval ρ = tardinessOf ρ t := fun t => by
      rw [Term.eval_ite_of_iff (schedF_eval t ρ)]; simp only [tardinessOf, Task.dueV, sem]
    simpa only [Fml.eval, sumOrZero_evalSum, evalSum_map, e] using h
  case earliness ts =>
    have e : ∀ t : Task, (Term.ite t.schedF (maxT (numT 0) (.sub (numT (t.due.getD 0)) t.eVar)) (numT 0)).eval ρ =
        earlinessOf ρ t := fun t => by
      rw [Term.eval_ite_of_iff (schedF_eval t ρ)]; simp only [earlinessOf, Task.dueV, sem]
    simpa only [Fml.eval, sumOrZero_evalSum, evalSum_map, e] using h
  case nbTardy ts =>
    show (Fml.eq v (sumOrZero (ts.map tardyTerm))).eval ρ   -- the twin's summand is the encoder's
    simpa only [Fml.eval, sumOrZero_evalSum, evalSum_map, tardyTerm_eval] using h
  case maxLateness ts =>
    exact maxOfF_sound _ _ ρ (by simpa only [List.map_map, Function.comp_def, sem, Task.dueV] using h)
  case maxBuffer levels => exact maxOfF_sound v levels ρ h
  case minBuffer levels => exact minOfF_sound v levels ρ h

theorem evalSum_filterMap_elim {α} (ρ : Env) (l : List α) (f : α → Option Term) :
    Term.evalSum ρ (l.filterMap f) = (l.map (fun x => (f x).elim 0 (fun t => t.eval ρ))).sum := by
  induction l with
  | nil => rfl
  | cons x xs ih =>
      simp only [List.filterMap_cons, List.map_cons, List.sum_cons, ← ih]
      cases f x <;> simp only [Option.elim, Term.evalSum, Int.zero_add]

/-- the assertion of IndicatorResourceCost, whichever of its four shapes is emitted: constant part plus half the
    trapezoid part (an empty part counts 0) -/
theorem resourceCost_sat (i : Nat) (v : Term) (items : List (Cost × List BusyRef)) (ρ : Env) :
    Sat ρ ((IBody.resourceCost items).fmls i v) ↔
      v.eval ρ = Term.evalSum ρ (items.flatMap (fun it => (costTerms it.1 it.2).1)) +
                 Term.evalSum ρ (items.flatMap (fun it => (costTerms it.1 it.2).2)) / 2 := by
  simp only [IBody.fmls]
  generalize items.flatMap (fun x => (costTerms x.1 x.2).1) = cs
  generalize items.flatMap (fun x => (costTerms x.1 x.2).2) = vs
  cases cs <;> cases vs <;>
    simp only [List.isEmpty_nil, List.isEmpty_cons, Bool.and_self, Bool.and_false, Bool.false_and, Bool.false_eq_true,
      if_true, if_false, sem, Int.zero_ediv, Int.add_zero, Int.zero_add]

/-- per resource: the terms the library sums (dropping a zero cost, not multiplying by a unit cost) have the value of
    the twin's `k · (end − start)` terms, and the trapezoid terms are the twin's -/
theorem costTerms_eval (ρ : Env) (it : Cost × List BusyRef) (h : it.1.isPoly = false) :
    Term.evalSum ρ (costTerms it.1 it.2).1 = Term.evalSum ρ (constCostTerms it) ∧
    Term.evalSum ρ (costTerms it.1 it.2).2 = Term.evalSum ρ (linCostTerms it) := by
  obtain ⟨c, busy⟩ := it
  rcases c with k | ⟨a, b⟩ | cs
  · refine ⟨?_, rfl⟩
    simp only [costTerms, constCostTerms, evalSum_filterMap_elim, evalSum_map]
    refine congrArg _ (List.map_congr_left fun b _ => ?_)
    by_cases h0 : k = 0
    · subst h0; simp only [beq_self_eq_true, if_true, Option.elim, sem, Int.zero_mul]
    · by_cases h1 : k = 1
      · subst h1; simp only [show ((1:Int) == 0) = false from rfl, beq_self_eq_true, if_true, if_false,
          Bool.false_eq_true, Option.elim, sem, Int.one_mul]
      · simp only [beq_eq_false_iff_ne.2 h0, beq_eq_false_iff_ne.2 h1, Bool.false_eq_true, if_false, Option.elim]
  · exact ⟨rfl, rfl⟩
  · cases h

theorem costTwin_eval2 (ρ : Env) : ∀ (items : List (Cost × List BusyRef)),
    items.all (fun it => !it.1.isPoly) = true →
    Term.evalSum ρ (items.flatMap (fun (it : Cost × List BusyRef) => (costTerms it.1 it.2).1)) =
      (sumOrZero (items.flatMap constCostTerms)).eval ρ ∧
    Term.evalSum ρ (items.flatMap (fun (it : Cost × List BusyRef) => (costTerms it.1 it.2).2)) =
      (sumOrZero (items.flatMap linCostTerms)).eval ρ := by
  intro items h
  simp only [List.all_eq_true, Bool.not_eq_true'] at h
  simp only [sumOrZero_evalSum, evalSum_flatMap]
  exact ⟨congrArg _ (List.map_congr_left fun it hit => (costTerms_eval ρ it (h it hit)).1),
         congrArg _ (List.map_congr_left fun it hit => (costTerms_eval ρ it (h it hit)).2)⟩

theorem linCostTerms_const (items : List (Cost × List BusyRef)) (h : items.all (fun it => it.1.isConst) = true) :
    items.all (fun it => !it.1.isPoly) = true ∧ items.flatMap linCostTerms = [] := by
  rw [List.all_eq_true] at h
  refine ⟨List.all_eq_true.2 fun it hit => ?_, List.flatMap_eq_nil_iff.2 fun it hit => ?_⟩ <;>
    have := h it hit <;> obtain ⟨c, busy⟩ := it <;> cases c <;> first | rfl | cases this

theorem costDefF_sound (i : Nat) (v : Term) (items : List (Cost × List BusyRef)) (ρ : Env)
    (h : Sat ρ ((IBody.resourceCost items).fmls i v)) (f : Fml)
    (hf : (IBody.resourceCost items).defF v = some f) : f.eval ρ := by
  rw [resourceCost_sat] at h
  simp only [IBody.defF] at hf
  split at hf
  · rename_i hall
    obtain ⟨hnp, hlin⟩ := linCostTerms_const items hall
    obtain ⟨h1, h2⟩ := costTwin_eval2 ρ items hnp
    cases hf
    rw [h1, h2, hlin] at h
    simpa only [Fml.eval, sumOrZero, List.isEmpty_nil, if_true, numT_eval, Int.zero_ediv, Int.add_zero] using h
  · split at hf
    · rename_i hnp
      obtain ⟨h1, h2⟩ := costTwin_eval2 ρ items hnp
      cases hf
      rw [h1, h2] at h
      simpa only [Fml.eval, Term.eval, numT_eval] using h
    · cases hf

theorem C08_spec_sound (cfg : Config) (st : State) (ρ : Env) (hρ : Sat ρ (initFmls cfg st)) :
    Sat ρ (specC08 st) := by
  simp only [specC08, Sat.append, Sat_flatMap, Sat_filterMap, List.mem_filter, Bool.not_eq_eq_eq_not, Bool.not_true,
    and_imp]
  refine ⟨fun ind hi a hf => ?_, fun c hc hop => ?_⟩
  · by_cases hcost : ∃ items, ind.body = .resourceCost items
    · obtain ⟨items, hb⟩ := hcost
      exact costDefF_sound ind.id (.var ind.var) items ρ (hb ▸ hρ.init_indicator hi) a (hb ▸ hf)
    · exact defF_sound (.var ind.var) ind.body ρ (C08_indicator_value cfg st ρ hρ ind hi) a
        (fun items hb => hcost ⟨items, hb⟩) hf
  · -- the constraints on indicators are never wrapped: the clause is the assertion list itself
    have hs : Sat ρ c.asserts := hρ.init_constr hc hop
    split
    · rename_i hb
      rwa [Constr.asserts_of_direct (by rw [hb]; rfl), hb] at hs
    · rename_i hb
      rwa [Constr.asserts_of_direct (by rw [hb]; rfl), hb] at hs
    · exact Sat.nil

theorem SEM_twins_sound (cfg : Config) (st : State) (ρ : Env) (hρ : Sat ρ (initFmls cfg st))
    (hwf : ∀ ev ∈ st.reqLog, ev.WF) :
    Sat ρ (specC01 st ++ specC02 st ++ specC03 st ++ specC04 st ++ specC08 st ++ specC10 st ++ specC09 st) := by
  simp only [Sat.append]
  exact ⟨⟨⟨⟨⟨⟨C01_spec_sound cfg st ρ hρ, C02_spec_sound cfg st ρ hρ hwf⟩, C03_spec_sound cfg st ρ hρ⟩,
    C04_spec_sound cfg st ρ hρ⟩, C08_spec_sound cfg st ρ hρ⟩, C10_spec_sound cfg st ρ hρ⟩,
    Sat_flatMap.2 fun b hb => C09_spec_sound st b ρ (hρ.init_buffer hb)⟩

end PS
