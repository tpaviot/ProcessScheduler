/-
  C13 — A solver object stays truthful across repeated and mixed calls.

  For every finite sequence of public calls (`initialize`, `export_to_smt2`, `solve`, `find_another_solution`,
  `find_another_solution_for_variable`), every configuration and every behaviour of the oracle, the level-0
  assertions of the solver are the assertions of `initialize` followed only by formulas of the shape the caller can
  ask for (`IsBlocking`), and between public calls no pushed frame remains: no optimisation bound is ever left behind
  (`C13_base`; `C13_fresh` from a fresh solver object). Hence a second `solve()` sees the assertions of `initialize`
  and formulas of that shape, nothing else. That `push` and `pop` are balanced in the trace of a call is compared on
  the real object by the SM channel.
-/
import PS.Theorems.C07
namespace PS

/-- formulas a caller can add through the `find_another_*` methods -/
def IsBlocking (st : State) (b : Fml) : Prop :=
  (∃ ρ, b = blockingClause st ρ) ∨ (∃ v n, b = Fml.ne (.var v) (numT n))

def SolverOK (st : State) (s : SolverSt) : Prop :=
  s.frames = [] ∧
  (s.initialized = true → ∃ bs, s.base = initFmls s.cfg.toConfig st ++ bs ∧ ∀ b ∈ bs, IsBlocking st b)

theorem initialize_ok (st : State) (s : SolverSt) : SolverOK st (s.initialize st) :=
  ⟨rfl, fun _ => ⟨[], (List.append_nil _).symm, nofun⟩⟩

theorem initialize_cfg (st : State) (s : SolverSt) : (s.initialize st).cfg = s.cfg := rfl

theorem ensureInit_initialized (st : State) (s : SolverSt) : (s.ensureInit st).initialized = true := by
  unfold SolverSt.ensureInit; split
  next h => exact h
  next => rfl

theorem ensureInit_ok (st : State) (s : SolverSt) (h : SolverOK st s) : SolverOK st (s.ensureInit st) := by
  unfold SolverSt.ensureInit; split
  · exact h
  · exact initialize_ok st s

/-- what `solve` does to the fields the invariants read -/
theorem solve_fields (st : State) (s : SolverSt) (answers : List (Answer × Int)) :
    (s.solve st answers).s.cfg = (s.ensureInit st).cfg ∧
    (s.solve st answers).s.initialized = (s.ensureInit st).initialized ∧
    (s.solve st answers).s.base = (s.ensureInit st).base ∧
    ((s.solve st answers).s.frames = [] ∨ (s.solve st answers).s.frames = (s.ensureInit st).frames) := by
  unfold SolverSt.solve
  simp only
  split
  · split <;> exact ⟨rfl, rfl, rfl, .inl rfl⟩
  · split
    · exact ⟨rfl, rfl, rfl, .inr rfl⟩
    · split <;> exact ⟨rfl, rfl, rfl, .inr rfl⟩

theorem solve_ok (st : State) (s : SolverSt) (answers : List (Answer × Int)) (h : SolverOK st s) :
    SolverOK st (s.solve st answers).s := by
  obtain ⟨hf, hb⟩ := ensureInit_ok st s h
  obtain ⟨e1, e2, e3, e4⟩ := solve_fields st s answers
  exact ⟨e4.elim id (·.trans hf), by rw [e1, e2, e3]; exact hb⟩

theorem solve_init (st : State) (s : SolverSt) (answers : List (Answer × Int)) :
    (s.solve st answers).s.initialized = true :=
  (solve_fields st s answers).2.1.trans (ensureInit_initialized st s)

theorem addBlocking_ok (st : State) (s : SolverSt) (b : Fml) (tr : List Ev) (hb : IsBlocking st b)
    (hi : s.initialized = true) (h : SolverOK st s) :
    SolverOK st { s with base := s.base ++ [b], trace := tr } := by
  obtain ⟨bs, hbs, hall⟩ := h.2 hi
  refine ⟨h.1, fun _ => ⟨bs ++ [b], by simp [hbs], fun x hx => ?_⟩⟩
  rcases List.mem_append.1 hx with hx | hx
  · exact hall x hx
  · cases List.mem_singleton.1 hx; exact hb

/-- a model is only ever stored by `solve`, which initialises first -/
def ModelImpliesInit (s : SolverSt) : Prop := s.model.isSome → s.initialized = true

/-- both invariants at once: one case analysis of the public methods -/
theorem SolverSt.step_inv (st : State) (s : SolverSt) (op : Op) (answers : List (Answer × Int))
    (h : SolverOK st s) (hm : ModelImpliesInit s) :
    SolverOK st (s.step st op answers).s ∧ ModelImpliesInit (s.step st op answers).s := by
  -- `find_another_solution` and `find_another_solution_for_variable` are one method up to the clause they add
  have another : ∀ b tr, IsBlocking st b → s.model.isSome →
      SolverOK st ({ s with base := s.base ++ [b], trace := tr }.solve st answers).s ∧
      ModelImpliesInit ({ s with base := s.base ++ [b], trace := tr }.solve st answers).s := fun b tr hb hs =>
    ⟨solve_ok _ _ _ (addBlocking_ok st s b tr hb (hm hs) h), fun _ => solve_init ..⟩
  cases op with
  | init => exact ⟨initialize_ok st s, fun _ => rfl⟩
  | solve => exact ⟨solve_ok st s answers h, fun _ => solve_init st s answers⟩
  | exportSmt => exact ⟨ensureInit_ok st s h, fun _ => ensureInit_initialized st s⟩
  | findAnother =>
      simp only [SolverSt.step]
      split
      next hmod => exact ⟨h, fun hs => by simp [hmod] at hs⟩
      next ρ hmod => exact another _ _ (.inl ⟨ρ, rfl⟩) (by simp [hmod])
  | findAnotherVar v =>
      simp only [SolverSt.step]
      split
      next hmod => exact ⟨h, fun hs => by simp [hmod] at hs⟩
      next ρ hmod => exact another _ _ (.inr ⟨v, _, rfl⟩) (by simp [hmod])

theorem step_ok (st : State) (s : SolverSt) (op : Op) (answers : List (Answer × Int))
    (h : SolverOK st s) (hm : ModelImpliesInit s) : SolverOK st (s.step st op answers).s :=
  (SolverSt.step_inv st s op answers h hm).1

/-- **C13.** `SolverOK` after any sequence of public calls, under any oracle behaviour. -/
theorem C13_base (st : State) (cfg : SConfig) :
    ∀ (ops : List Op) (answers : List (Answer × Int)) (s : SolverSt),
      SolverOK st s → ModelImpliesInit s → SolverOK st (runOps s st ops answers) := by
  intro ops
  induction ops with
  | nil => intro answers s h _; exact h
  | cons op ops ih =>
      intro answers s h hm
      obtain ⟨h1, h2⟩ := SolverSt.step_inv st s op answers h hm
      exact ih _ _ h1 h2

theorem C13_fresh (st : State) (cfg : SConfig) (ops : List Op) (answers : List (Answer × Int)) :
    SolverOK st (runOps { cfg } st ops answers) :=
  C13_base st cfg ops answers { cfg } ⟨rfl, nofun⟩ nofun

end PS
