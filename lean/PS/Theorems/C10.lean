/-
  C10 — logical combinations and optional constraints mean what their connective says.

  `Holds o ρ`: every assertion of operand `o` is true in ρ (an operand is the assertion list of the constraint it stands
  for, or a single raw expression).  The connective theorems hold for arbitrary operand lists, hence for any nesting
  depth: the operand of an outer connective is the assertion list of the inner one, to which the same theorems apply.
  Proved in full, together with the applied-flag wrapper of optional constraints and the fact that `initialize` takes
  from the constraint registry exactly the constraints that are not operands (`C10_no_leak`; over scripts,
  `C10_operand_not_enforced`).
-/
import PS.Proofs.StepInv
import PS.Proofs.InitMem
import PS.Spec.Fragment
namespace PS

def Holds (o : List Fml) (ρ : Env) : Prop := Sat ρ o

@[sem] theorem orOperand_eval (ρ : Env) (o : List Fml) : (orOperand o).eval ρ ↔ Holds o ρ := by
  unfold orOperand Holds
  split <;> simp only [sem]

/-- the documented meaning of each connective / generic constraint body -/
def ConnMeaning (ρ : Env) : CBody → Prop
  | .not_ o => ¬ Holds o ρ
  | .or_ os => ∃ o ∈ os, Holds o ρ
  | .and_ os => ∀ o ∈ os, Holds o ρ
  | .xor_ o1 o2 => ¬ (Holds o1 ρ ↔ Holds o2 ρ)
  | .implies c os => c.eval ρ → ∀ o ∈ os, Holds o ρ
  | .ifThenElse c os1 os2 => (c.eval ρ → ∀ o ∈ os1, Holds o ρ) ∧ (¬ c.eval ρ → ∀ o ∈ os2, Holds o ρ)
  | .fromExpr f => f.eval ρ
  | _ => True

/-- **C10 (connectives).** The raw assertion of a connective is equivalent to the boolean combination of its operands'
    meanings. -/
theorem C10_connective_raw (id : Nat) (b : CBody) (hb : b.isConn = true) (ρ : Env) :
    Sat ρ (b.raw id) ↔ ConnMeaning ρ b := by
  cases b <;> cases hb <;> simp only [CBody.raw, ConnMeaning, sem, Holds]

def nApplied (ρ : Env) (cs : List Nat) : Nat := cs.countP (fun i => ρ.b (.applied i))

/-- **C10 (force-apply-N).** The number of applied constraints obeys the exact / min / max rule. -/
theorem C10_forceApplyN (id : Nat) (cs : List Nat) (n : Nat) (k : CountKind) (ρ : Env) :
    Sat ρ ((CBody.forceApplyN cs n k).raw id) ↔
      (match k with | .exact => nApplied ρ cs = n | .min => n ≤ nApplied ρ cs | .max => nApplied ρ cs ≤ n) := by
  simp only [CBody.raw, sem, nApplied]
  exact Iff.rfl

/-- `hd`: the constraints on indicators (`direct`) are never wrapped -/
theorem Constr.asserts_sat (c : Constr) (hd : c.optional = true → c.body.direct = false) (ρ : Env) :
    Sat ρ c.asserts ↔ ((c.optional = true → ρ.b (.applied c.id) = true) → Sat ρ (c.body.raw c.id)) := by
  unfold Constr.asserts
  cases ho : c.optional
  · simp
  · simp only [hd ho, Bool.not_false, Bool.and_self, if_true, sem, true_implies]
    exact ⟨fun h happ a ha => h a ha happ, fun h a ha happ => h happ a ha⟩

/-- **C10 (optional constraints).** For *every* constraint class that goes through `set_z3_assertions`: an optional
    constraint that is applied holds (its raw assertions are true); one that is not applied constrains nothing. -/
theorem C10_optional (c : Constr) (ho : c.optional = true) (hd : c.body.direct = false) (ρ : Env) :
    Sat ρ c.asserts ↔ (ρ.b (.applied c.id) = true → Sat ρ (c.body.raw c.id)) := by
  rw [c.asserts_sat (fun _ => hd), ho]; simp

theorem C10_mandatory (c : Constr) (ho : c.optional = false) : c.asserts = c.body.raw c.id := by
  simp [Constr.asserts, ho]

theorem Constr.asserts_of_direct {c : Constr} (hd : c.body.direct = true) : c.asserts = c.body.raw c.id := by
  simp [Constr.asserts, hd]

theorem Constr.sat_raw {c : Constr} {ρ : Env} (h : Sat ρ c.asserts)
    (happ : c.optional = true → ρ.b (.applied c.id) = true) : Sat ρ (c.body.raw c.id) := by
  cases hd : c.body.direct
  · exact (c.asserts_sat (fun _ => hd) ρ).1 h happ
  · rwa [Constr.asserts_of_direct hd] at h

theorem CBody.direct_of_isConn {b : CBody} (hb : b.isConn = true) : b.direct = false := by
  cases b <;> first | rfl | cases hb

/-- a mandatory connective asserts its meaning; an optional one asserts it under its applied flag -/
theorem C10_connective (c : Constr) (hb : c.body.isConn = true) (ρ : Env) :
    Sat ρ c.asserts ↔ ((c.optional = true → ρ.b (.applied c.id) = true) → ConnMeaning ρ c.body) := by
  rw [c.asserts_sat (fun _ => CBody.direct_of_isConn hb), C10_connective_raw c.id c.body hb]

/-- `initialize` asserts the assertions of every non-operand constraint (that it takes nothing else from the constraint
    registry is `C10_no_leak`) -/
theorem C10_constraint_part (cfg : Config) (st : State) (ρ : Env) (hρ : Sat ρ (initFmls cfg st)) :
    ∀ c ∈ st.constrs, c.operand = false → Sat ρ c.asserts :=
  fun _ hc hop => hρ.init_constr hc hop

theorem Sat.init_raw {cfg : Config} {st : State} {ρ : Env} (hρ : Sat ρ (initFmls cfg st)) {c : Constr}
    (hc : c ∈ st.constrs) (hop : c.operand = false) (happ : c.optional = true → ρ.b (.applied c.id) = true) :
    Sat ρ (c.body.raw c.id) :=
  Constr.sat_raw (hρ.init_constr hc hop) happ

/-- a constraint of the problem that is enforced on its own: mandatory and not an operand -/
def Enforced (st : State) (c : Constr) : Prop := c ∈ st.constrs ∧ c.optional = false ∧ c.operand = false

theorem Enforced.sat_raw {cfg : Config} {st : State} {ρ : Env} {c : Constr} (he : Enforced st c)
    (hρ : Sat ρ (initFmls cfg st)) : Sat ρ (c.body.raw c.id) :=
  hρ.init_raw he.1 he.2.2 fun h => absurd h (Bool.eq_false_iff.1 he.2.1)

/-- **C10 (no leak, part 1).** An assertion of `initialize` that comes from the constraint registry comes from a
    constraint that is *not* an operand: `initialize` is the concatenation of task / worker / indicator / work-amount /
    buffer / problem / objective formulas and of the assertions of the constraints with `operand = false`. -/
theorem C10_no_leak (cfg : Config) (st : State) (a : Fml) (h : a ∈ initFmls cfg st) :
    (∃ c ∈ st.constrs, c.operand = false ∧ a ∈ c.asserts) ∨
    (∃ t ∈ st.tasks, a ∈ st.taskAsserts t ∨ a = t.horizonFml) ∨
    (∃ w ∈ st.workers, a ∈ noOverlapPairs w.name (st.busyOf w.name)) ∨
    (∃ i ∈ st.indicators, a ∈ i.asserts) ∨ (∃ t ∈ st.tasks, a ∈ workAmount st t) ∨
    (∃ b ∈ st.buffers, a ∈ bufferFmls st b) ∨ a ∈ st.problemAsserts ∨ a ∈ objectiveFmls cfg st := by
  rw [mem_initFmls_iff] at h
  rwa [← or_assoc, @or_comm (∃ c ∈ st.constrs, _), or_assoc, @or_left_comm (∃ c ∈ st.constrs, _)]

/-- **C10 (no leak, part 2: over scripts).**  In every state a construction script can produce, a constraint that a
    later connective (Not / Or / And / Xor / Implies / IfThenElse, at any nesting depth) refers to
    is marked as an operand (`C10_operands_marked`, by induction over the script), hence none of the assertions
    `initialize` takes from the constraint registry comes from it: it only counts through the combination. -/
theorem C10_operand_not_enforced (st : State) (hr : Reachable st) (c d : Constr)
    (hc : c ∈ st.constrs) (hd : d ∈ st.constrs) (href : d.id ∈ c.refs) (hlt : d.id < c.id) :
    d ∉ st.constrs.filter (fun x => !x.operand) := by
  have := (C10_operands_marked st hr).2 c hc d.id href d hd rfl hlt
  simp [this]

end PS
