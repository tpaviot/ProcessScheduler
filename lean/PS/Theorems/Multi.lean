/-
  Several objectives inside the exactness theorems (C05, C07).

  With more than one objective (incremental optimiser, or `optimize_priority = "weight"`) `initialize` adds two
  equations, `EquivalentSingleObjective = Σ weightᵢ · targetᵢ` and `Indicator_EquivalentIndicator =
  EquivalentSingleObjective`, over two variables nothing else mentions (`State.freshEquiv`, decidable).  They are a
  *conservative extension*: every model of the rest extends to them by setting both to the sum (`multi_extend`), so
  exactness carries over (`Exact.multi`):

  * `C05_feasible_iff_multi` — the constraint system has a model iff the problem has a valid schedule, whatever the
    number of objectives and the configuration;
  * `C07_weighted_attainable` — the values the variable the optimiser works on can take are the values of the
    weighted sum of the objectives' targets on valid schedules: the optimum the solver looks for is the optimum of
    the documented weighted combination (`C07_weighted` says the variable *is* that sum in every admitted
    interpretation; this says which sums exist).

  The hypotheses are the executable test `State.fragmentMultiB`, which the driver evaluates for every generated script
  with several objectives (`fragmentMultiB_sound`).
-/
import PS.Theorems.Exact
import PS.Theorems.C14
namespace PS

theorem initFmls_split (cfg : Config) (st : State) : initFmls cfg st = initFmls cfgP st ++ objectiveFmls cfg st := by
  rw [C15_core_cfg_free cfg, C15_core_cfg_free cfgP, objectiveFmls_of_pareto cfgP st rfl, List.append_nil]

/-- ρ with the two variables of the weighted combination set to the value of the sum -/
noncomputable def withEquiv (st : State) (ρ : Env) : Env :=
  { ρ with i := fun v => if v = eqvVar ∨ v = eqvInd then Term.evalSum ρ (weightedTerms st) else ρ.i v }

theorem withEquiv_agree (st : State) (ρ : Env) : Env.AgreeOn notEquiv ρ (withEquiv st ρ) :=
  Env.AgreeOn.update_i _ _ fun v hv => by
    simp only [notEquiv, Bool.and_eq_true, Bool.not_eq_true', beq_eq_false_iff_ne, ne_eq] at hv
    simp only [hv.1, hv.2, or_self, if_false]

theorem weightedSum_congr (st : State) (ρ ρ' : Env) (h : ∀ o ∈ st.objectives, o.target.eval ρ = o.target.eval ρ') :
    Term.evalSum ρ (weightedTerms st) = Term.evalSum ρ' (weightedTerms st) := by
  simp only [weightedTerms, evalSum_map, Term.eval, numT]
  exact congrArg List.sum (List.map_congr_left fun o ho => by rw [h o ho])

theorem withEquiv_objective (cfg : Config) (st : State) (ρ : Env)
    (hv : st.objectives.all (fun o => o.target.varsIn notEquiv) = true) :
    Sat (withEquiv st ρ) (objectiveFmls cfg st) := by
  by_cases h : (decide (st.objectives.length > 1) && (!cfg.optimize || cfg.priority == "weight")) = true
  · have hsum : Term.evalSum ρ (weightedTerms st) = Term.evalSum (withEquiv st ρ) (weightedTerms st) :=
      weightedSum_congr st _ _ fun o ho =>
        Term.eval_congr notEquiv _ _ (withEquiv_agree st ρ) _ (List.all_eq_true.1 hv o ho)
    have e1 : (withEquiv st ρ).i (.named "EquivalentSingleObjective") = Term.evalSum ρ (weightedTerms st) := by
      simp [withEquiv, eqvVar]
    have e2 : (withEquiv st ρ).i (.ind "EquivalentIndicator") = Term.evalSum ρ (weightedTerms st) := by
      simp [withEquiv, eqvInd]
    rw [objectiveFmls_sat cfg st _ h, ← evalSum_weighted]
    exact ⟨e1.trans hsum, e2.trans e1.symm⟩
  · rw [objectiveFmls, if_neg h]; exact Sat.nil

/-- **conservative extension**: a model of the problem's own assertions extends to the two equations of the weighted
    combination -/
theorem multi_extend (cfg : Config) (st : State) (ρ : Env) (hf : st.freshEquiv = true)
    (h : Sat ρ (initFmls cfgP st)) : Sat (withEquiv st ρ) (initFmls cfg st) := by
  obtain ⟨hf1, hf2⟩ := Bool.and_eq_true_iff.1 hf
  rw [initFmls_split, Sat.append]
  exact ⟨(Sat.congr (withEquiv_agree st ρ) hf1).1 h, withEquiv_objective cfg st ρ hf2⟩

theorem multi_restrict (cfg : Config) (st : State) (ρ : Env) (h : Sat ρ (initFmls cfg st)) : Sat ρ (initFmls cfgP st) := by
  rw [initFmls_split, Sat.append] at h
  exact h.1

/-! ### the problem without its objectives (`InCoreS` allows one): same assertions of its own, same valid schedules -/

theorem initFmls_noObj (cfg : Config) (st : State) : initFmls cfg st.noObj = initFmls cfgP st := by
  rw [C15_core_cfg_free cfg, C15_core_cfg_free cfgP, objectiveFmls_of_le_one cfg st.noObj (Nat.zero_le 1),
    objectiveFmls_of_pareto cfgP st rfl]
  rfl

theorem Valid_noObj (st : State) (σ : Sched) : Valid st.noObj σ ↔ Valid st σ := by
  constructor <;> exact C14_valid_order_free _ _ σ rfl (fun _ => .rfl) (fun _ => .rfl) (fun _ => .rfl) (fun _ => rfl)
    (fun _ => rfl) (fun _ => rfl) rfl (fun _ => rfl) (CoreMeaning_env rfl)

theorem Exact.multi {st : State} {enc : Sched → Env} (h : Exact (initFmls cfgP st.noObj) (Valid st.noObj) enc)
    (cfg : Config) (hf : st.freshEquiv = true) :
    Exact (initFmls cfg st) (Valid st) (fun σ => withEquiv st (enc σ)) where
  sound ρ hρ hH := (Valid_noObj st _).1 (h.sound ρ ((initFmls_noObj cfgP st).symm ▸ multi_restrict cfg st ρ hρ) hH)
  complete σ hv := multi_extend cfg st _ hf (initFmls_noObj cfgP st ▸ h.complete σ ((Valid_noObj st σ).2 hv))
  horizon σ hv := (withEquiv_agree st (enc σ)).i .horizon rfl ▸ h.horizon σ ((Valid_noObj st σ).2 hv)

theorem exact_multi (cfg : Config) {st : State} (hc : InCoreS st.noObj) (hf : st.freshEquiv = true) :
    Exact (initFmls cfg st) (Valid st) (fun σ => withEquiv st (envOf st.noObj σ)) :=
  (exact_core cfgP hc).multi cfg hf

theorem C05_feasible_iff_multi (cfg : Config) (st : State) (hc : InCoreS st.noObj) (hf : st.freshEquiv = true) :
    (∃ ρ, Sat ρ (initFmls cfg st) ∧ 0 ≤ ρ.i .horizon) ↔ ∃ σ, Valid st σ :=
  (exact_multi cfg hc hf).feasible_iff

/-- **C07 (the optimum of the weighted combination).** With several objectives in the weighted-sum reading, an
    integer is the value of the variable the optimiser works on in some admitted interpretation iff it is the weighted
    sum of the objectives' indicators on some valid schedule. -/
theorem C07_weighted_attainable (cfg : Config) (st : State) (hc : InCoreS st.noObj) (hf : st.freshEquiv = true)
    (hmulti : (st.objectives.length > 1 && (!cfg.optimize || cfg.priority == "weight")) = true)
    (htargets : ∀ o ∈ st.objectives, o.target.plainIn st.noObj.ownI2 ownB = true) (k : Int) :
    (∃ ρ, Sat ρ (initFmls cfg st) ∧ 0 ≤ ρ.i .horizon ∧ ρ.i eqvVar = k) ↔
    (∃ σ, Valid st σ ∧ Term.evalSum (envOf st σ) (weightedTerms st) = k) := by
  refine (exact_multi cfg hc hf).attainable (·.i eqvVar) (fun σ => Term.evalSum (envOf st σ) (weightedTerms st))
    (fun ρ hρ => ?_) (fun σ _ => by simp [withEquiv]; rfl) k
  -- the equation of the weighted combination, whose terms read own variables only
  have heq : ρ.i eqvVar = Term.evalSum ρ (weightedTerms st) :=
    ((objectiveFmls_sat cfg st ρ hmulti).1 hρ.init_objective).1.trans (evalSum_weighted ρ _).symm
  have hag := agree_own2 cfgP st.noObj ρ ((initFmls_noObj cfgP st).symm ▸ multi_restrict cfg st ρ hρ) hc
  rw [heq]
  exact weightedSum_congr st _ _ fun o ho => eval_congr2_term _ _ _ _ hag _ (htargets o ho)

/-- the executable test is sufficient for the two theorems above -/
theorem fragmentMultiB_sound {st : State} (hr : Reachable st) (h : st.fragmentMultiB = true) :
    InCoreS st.noObj ∧ st.freshEquiv = true ∧ ∀ o ∈ st.objectives, o.target.plainIn st.noObj.ownI2 ownB = true := by
  unfold State.fragmentMultiB at h
  simp only [Bool.and_eq_true] at h
  have w := reachable_wf st hr  -- `WFInv` reads the tasks and the log only, which `noObj` keeps
  exact ⟨fragmentB_sound_wf ⟨w.1, w.2, w.3⟩ h.1.1, h.1.2, List.all_eq_true.1 h.2⟩

/-! ### non-vacuity: two objectives, flow time + 3 × tardiness -/

def Multi_exState : State :=
  run [.problem "p" (some 12),
       .task "A" (.fixed 3) false 2 (some 1) (some 9) true 1,
       .task "B" (.var 1 (some 4) (some [2, 3])) true 0 none none true 1,
       .worker "W" 1 (.const 0), .worker "V" 2 (.const 0),
       .select none ["W", "V"] 1 .exact,
       .require "A" (.select 0) false 0 0,
       .require "B" (.worker "W") true 0 0,
       .constr none false (.precedence "A" "B" 1 .lax),
       .indicator (.tardiness (some ["A"])),
       .objective (.flowtime none),
       .objective (.minimizeIndicator 0 3)]

theorem Multi_ex_fragment : Multi_exState.fragmentMultiB = true := by decide +kernel

theorem Multi_ex_inCoreS : InCoreS Multi_exState.noObj := (fragmentMultiB_sound ⟨_, rfl⟩ Multi_ex_fragment).1

example : Multi_exState.freshEquiv = true ∧ Multi_exState.objectives.length = 2 ∧
    (∀ o ∈ Multi_exState.objectives, o.target.plainIn Multi_exState.noObj.ownI2 ownB = true) := by decide +kernel

/-- the constraint system of the two-objective problem (incremental optimiser: the weighted combination is asserted)
    has a model iff the problem has a valid schedule -/
example : (∃ ρ, Sat ρ (initFmls {} Multi_exState) ∧ 0 ≤ ρ.i .horizon) ↔ ∃ σ, Valid Multi_exState σ :=
  C05_feasible_iff_multi {} Multi_exState Multi_ex_inCoreS (fragmentMultiB_sound ⟨_, rfl⟩ Multi_ex_fragment).2.1

end PS
