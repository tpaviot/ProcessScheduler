/-
  C16 — Exports (JSON, CSV/DataFrame, Excel, SMT-LIB) reproduce the data exactly.

  The repository's own logic in the exporters is `dfRows` (to_df / to_csv) and `excelCells`
  (the calls made on the xlsxwriter worksheets); serialisation itself (pandas, xlsxwriter,
  pydantic's JSON dump, z3's SMT-LIB printer) is read back and compared by the OUT channel.
  * `C16_df_faithful`  – one row per task, in task order, carrying exactly name, resources, start,
    end, duration, scheduled of that task (`C16_df_injective`: the task list is recovered from the rows);
  * `C16_excel_item_decode` – from the cell written for an item of length ≥ 1, row / start / end / text are
    recovered exactly (`C16_excel_zero_length`: an item of length 0 reads back with length 1, finding F21);
  * `C16_excel_cells_complete` – every reported assignment and every task has its cell.
-/
import PS.Model.Export
namespace PS

theorem C16_df_faithful (s : Solution) :
    (dfRows s).length = s.tasks.length ∧
    ∀ i (h : i < s.tasks.length),
      let t := s.tasks[i]
      (dfRows s)[i]? = some { name := t.name, resources := t.assigned, start := t.start, end_ := t.end_,
                              duration := t.duration, scheduled := t.scheduled, tardy := t.due.map (fun d => t.start - d) } := by
  constructor
  · simp [dfRows]
  · intro i h
    simp [dfRows, h]

theorem C16_df_injective (s1 s2 : Solution) (h : dfRows s1 = dfRows s2) :
    s1.tasks.map (fun t => (t.name, t.assigned, t.start, t.end_, t.duration, t.scheduled)) =
    s2.tasks.map (fun t => (t.name, t.assigned, t.start, t.end_, t.duration, t.scheduled)) := by
  have := congrArg (List.map fun r : DfRow => (r.name, r.resources, r.start, r.end_, r.duration, r.scheduled)) h
  simpa [dfRows, List.map_map, Function.comp_def] using this

/-- what a reader of the sheet recovers from one item cell -/
def Cell.decodeItem : Cell → String × Nat × Int × Int × String
  | .merge sh r c1 c2 t => (sh, r, c1 - 1, c2, t)
  | .write sh r c t => (sh, r, c - 1, c, t)           -- a single cell reads as an item of length 1

/-- **C16 (Excel).** An item of length at least 1 is recovered exactly from its cell. -/
theorem C16_excel_item_decode (sheet : String) (row : Nat) (start end_ : Int) (text : String)
    (hlen : 1 ≤ end_ - start) :
    (itemCell sheet row start end_ text).decodeItem = (sheet, row, start, end_, text) := by
  unfold itemCell
  by_cases h : end_ - start > 1
  · simp [h, Cell.decodeItem]
  · have he : end_ = start + 1 := by omega
    subst he
    have h2 : ¬ (1 < start + 1 - start) := by omega
    simp [h2, Cell.decodeItem]

/-- a zero-length item is written like a length-1 item (finding F21): the decoded end is
    `start + 1` -/
theorem C16_excel_zero_length (sheet : String) (row : Nat) (start : Int) (text : String) :
    (itemCell sheet row start start text).decodeItem = (sheet, row, start, start + 1, text) := by
  simp [itemCell, Cell.decodeItem]

theorem enumFrom_eq_zipIdx {α} (l : List α) (k : Nat) : enumFrom k l = (l.zipIdx k).map (fun p => (p.2, p.1)) := by
  induction l generalizing k with
  | nil => rfl
  | cons x xs ih => simp [enumFrom, ih, List.zipIdx_cons]

theorem enumFrom_length {α} (l : List α) (k : Nat) : (enumFrom k l).length = l.length := by
  simp [enumFrom_eq_zipIdx]

theorem getElem?_enumFrom {α} (l : List α) (k i : Nat) : (enumFrom k l)[i]? = (l[i]?).map (fun x => (k + i, x)) := by
  simp [enumFrom_eq_zipIdx, Function.comp_def]

theorem mem_enumFrom {α} (l : List α) (k i : Nat) (x : α) (h : l[i]? = some x) : (k + i, x) ∈ enumFrom k l :=
  List.mem_of_getElem? (i := i) (by rw [getElem?_enumFrom, h]; rfl)

/-- **C16 (Excel, completeness).** Every reported assignment has its cell on the row of its
    resource, and every task its cell on its row. -/
theorem C16_excel_cells_complete (s : Solution) :
    (∀ i r, s.resources[i]? = some r → ∀ a ∈ r.assignments,
        itemCell "GANTT Resource view" (i + 1) a.2.1 a.2.2 a.1 ∈ excelCells s) ∧
    (∀ i t, s.tasks[i]? = some t →
        itemCell "GANTT Task view" (i + 1) t.start t.end_ (",".intercalate t.assigned) ∈ excelCells s) := by
  constructor
  · intro i r hr a ha
    unfold excelCells
    simp only [List.mem_append, List.mem_flatMap]
    left; left; left; left; right
    refine ⟨(i, r), ?_, ?_⟩
    · simpa using mem_enumFrom s.resources 0 i r hr
    · simp only [List.mem_cons, List.mem_map]
      right
      exact ⟨a, ha, rfl⟩
  · intro i t ht
    unfold excelCells
    simp only [List.mem_append, List.mem_flatMap]
    left; left; right
    refine ⟨(i, t), ?_, ?_⟩
    · simpa using mem_enumFrom s.tasks 0 i t ht
    · simp

end PS
