/-
  C14 for the declaration order of **tasks** on the scheduling core.

  Declaring the tasks in another order gives them other task numbers — and with them other parking instants for
  unscheduled optional tasks, so the two constraint systems are *not* the same formulas.  The documented meaning,
  however, never reads a task number: `ValidClean2` (the specification of `CleanSpec.lean`, with the work amount also
  on real intervals) only reads names, kinds, dates, requirements and flags.  Hence

  * `ValidClean2_renumber`: two problems that are "the same up to task numbers" (`SameUpToNumbers`: the same task
    declarations with possibly different numbers, the same workers, requirement logs per task and constraints of
    corresponding meaning) have the same valid schedules;
  * `Valid_renumber` / `C14_tasks_order_verdict`: hence — through `Valid_iff_clean2` and the exactness theorems — the
    same schedules in the sense of `Valid`, the same feasibility verdict of the encoder and the same admitted
    schedules, although the emitted formulas differ.  The hypothesis `DelaysBelowNumber` on both sides (finding F19) is
    the one `Valid_iff_clean` carries;
  * `CoreMeaning_renumTasks`: the time and scheduling constraint classes mean the same over renumbered tasks; the
    executable relation `State.numbersIntoB` (`tasksOrderTheoremB_sound`) accepts constraints of these classes only;
  * `C06_deletion_sound`: C06 for a pair of scripts, one with and one without the optional task — `Absent.lean` for
    the problem with the task dropped, then `Valid_renumber`, since the shorter script numbers its tasks anew.
-/
import PS.Theorems.Absent
namespace PS

def Task.renum (t : Task) (k : Nat) : Task := { t with num0 := k }

/-- `ValidClean` with the work amount on real intervals as well: no clause but the user formulas inside
    `CoreMeaning` mentions the witness interpretation -/
structure ValidClean2 (st : State) (σ : Sched) : Prop where
  horizon_nonneg : 0 ≤ σ.horizon
  horizon_le : ∀ H, st.horizon = some H → σ.horizon ≤ H
  tasks : ∀ t ∈ st.tasks, σ.isSched t = true → TaskValid σ t
  dyn : ∀ t ∈ st.tasks, ∀ r ∈ st.reqsOf t.name, r.sel = none → r.dynamic = true → σ.isSched t = true → DynValid σ t r
  counts : ∀ t ∈ st.tasks, ∀ s rs, ReqEvent.viaSelect t.name s rs true ∈ st.eventsOf t.name →
    CountOK s.kind (σ.nSelected s) s.n
  no_overlap : RealNoOverlap st σ
  work : ∀ t ∈ st.tasks, 0 < t.work → realWork st σ t ≠ [] → σ.isSched t = true → t.work ≤ (realWork st σ t).sum
  constrs : ∀ c ∈ st.constrs, c.operand = false → (c.optional = true → σ.applied c.id = true) → CoreMeaning st σ c.body

theorem realWork_nil_iff (st : State) (σ : Sched) (t : Task) : realWork st σ t = [] ↔ workTerms st t = [] := by
  unfold realWork workTerms
  rw [List.filterMap_eq_nil_iff, List.filterMap_eq_nil_iff]
  exact forall₂_congr fun r _ => by cases st.findWorker r.worker <;> simp only [reduceCtorEq]

theorem ValidClean_iff_clean2 (st : State) (σ : Sched) (hc : InCoreS st) : ValidClean st σ ↔ ValidClean2 st σ := by
  constructor
  · intro h
    refine ⟨h.horizon_nonneg, h.horizon_le, h.tasks, h.dyn, h.counts, h.no_overlap, ?_, h.constrs⟩
    intro t ht hw hne hs
    rw [← workSum_real st σ hc t ht hs]
    exact h.work t ht hw (fun he => hne ((realWork_nil_iff st σ t).2 he)) hs
  · intro h
    refine ⟨h.horizon_nonneg, h.horizon_le, h.tasks, h.dyn, h.counts, h.no_overlap, ?_, h.constrs⟩
    intro t ht hw hne hs
    rw [workSum_real st σ hc t ht hs]
    exact h.work t ht hw (fun he => hne ((realWork_nil_iff st σ t).1 he)) hs

theorem Valid_iff_clean2 (st : State) (σ : Sched) (hc : InCoreS st) (hdel : DelaysBelowNumber st) :
    Valid st σ ↔ ValidClean2 st σ :=
  (Valid_iff_clean st σ hc hdel).trans (ValidClean_iff_clean2 st σ hc)

/-- one direction of "the same problem up to task numbers" -/
structure NumbersInto (st st' : State) : Prop where
  horizon : st.horizon = st'.horizon
  tasks : ∀ t ∈ st.tasks, ∃ t' ∈ st'.tasks, t' = t.renum t'.num0
  workers : ∀ w, w ∈ st.workers → w ∈ st'.workers
  findWorker : ∀ n, st.findWorker n = st'.findWorker n
  reqs : ∀ n, st.reqsOf n = st'.reqsOf n
  events : ∀ n, st.eventsOf n = st'.eventsOf n
  constrs : ∀ c ∈ st.constrs, c.operand = false → ∃ c' ∈ st'.constrs, c'.operand = false ∧
    (c.optional = true → c'.id = c.id) ∧
    c'.optional = c.optional ∧ ∀ σ, CoreMeaning st σ c.body ↔ CoreMeaning st' σ c'.body

/-- the same task declarations (possibly with other numbers), workers, requirement logs per task, and constraints of
    corresponding meaning -/
def SameUpToNumbers (st st' : State) : Prop := NumbersInto st st' ∧ NumbersInto st' st

theorem realWork_renum (st st' : State) (σ : Sched) (h : NumbersInto st st') (t : Task) (k : Nat) :
    realWork st' σ (t.renum k) = realWork st σ t := by
  unfold realWork
  have hr : st'.reqsOf (t.renum k).name = st.reqsOf t.name := (h.reqs t.name).symm
  rw [hr]
  apply List.filterMap_congr
  intro r _
  rw [← h.findWorker r.worker]
  rfl

theorem NumbersInto.task {st st' : State} (h : NumbersInto st st') {t : Task} (ht : t ∈ st.tasks) :
    ∃ k, t.renum k ∈ st'.tasks := by
  obtain ⟨t', ht', he⟩ := h.tasks t ht
  exact ⟨t'.num0, he ▸ ht'⟩

/-- a valid schedule (clean sense) of a problem is one of every problem that is the same up to task numbers: no
    clause reads a task number -/
theorem ValidClean2_into (st st' : State) (σ : Sched) (h : NumbersInto st' st) (hv : ValidClean2 st σ) :
    ValidClean2 st' σ := by
  refine ⟨hv.horizon_nonneg, ?_, ?_, ?_, ?_, ?_, ?_, ?_⟩
  · intro H hH; exact hv.horizon_le H (h.horizon ▸ hH)
  · intro t ht hs
    obtain ⟨k, hk⟩ := h.task ht
    have v := hv.tasks _ hk hs  -- no field reads the task number
    exact ⟨v.start_nonneg, v.end_le, v.dur_eq, v.durOK, v.release, v.deadline⟩
  · intro t ht r hr hsel hdyn hs
    obtain ⟨k, hk⟩ := h.task ht
    exact hv.dyn _ hk r (h.reqs t.name ▸ hr) hsel hdyn hs
  · intro t ht s rs hmem
    obtain ⟨k, hk⟩ := h.task ht
    exact hv.counts _ hk s rs (h.events t.name ▸ hmem)
  · intro w hw t1 ht1 t2 ht2 hne r1 hr1 r2 hr2 hw1 hw2 ha1 ha2
    obtain ⟨k1, hk1⟩ := h.task ht1
    obtain ⟨k2, hk2⟩ := h.task ht2
    exact hv.no_overlap w (h.workers w hw) _ hk1 _ hk2 hne r1 (h.reqs t1.name ▸ hr1) r2 (h.reqs t2.name ▸ hr2)
      hw1 hw2 ha1 ha2
  · intro t ht hw hne hs
    obtain ⟨k, hk⟩ := h.task ht
    rw [← realWork_renum st' st σ h t k] at hne ⊢
    exact hv.work (t.renum k) hk hw hne hs
  · intro c' hc' hop happ
    obtain ⟨c, hc, hop2, hid, hopt, hm⟩ := h.constrs c' hc' hop
    exact (hm σ).2 (hv.constrs c hc hop2 (fun ho => by
      have ho' : c'.optional = true := hopt ▸ ho
      rw [hid ho']; exact happ ho'))

/-- **C14 (task order, meaning).** Problems that are the same up to task numbers have the same valid schedules. -/
theorem ValidClean2_renumber (st st' : State) (σ : Sched) (h : SameUpToNumbers st st') :
    ValidClean2 st σ ↔ ValidClean2 st' σ :=
  ⟨ValidClean2_into st st' σ h.2, ValidClean2_into st' st σ h.1⟩

/-- … in the sense of `Valid`, given that neither numbering runs into finding F19 -/
theorem Valid_renumber (st st' : State) (σ : Sched) (h : SameUpToNumbers st st') (hc : InCoreS st) (hc' : InCoreS st')
    (hdel : DelaysBelowNumber st) (hdel' : DelaysBelowNumber st') : Valid st σ ↔ Valid st' σ := by
  rw [Valid_iff_clean2 st σ hc hdel, Valid_iff_clean2 st' σ hc' hdel']
  exact ValidClean2_renumber st st' σ h

/-- **C14 (task order, encoder).** Two declaration orders of the tasks of one problem of the fragment: the emitted
    formulas differ (other parking instants), the feasibility verdict and the admitted schedules do not. -/
theorem C14_tasks_order_verdict (cfg cfg' : Config) (st st' : State) (h : SameUpToNumbers st st')
    (hc : InCoreS st) (hc' : InCoreS st') (hdel : DelaysBelowNumber st) (hdel' : DelaysBelowNumber st') :
    ((∃ ρ, Sat ρ (initFmls cfg st) ∧ 0 ≤ ρ.i .horizon) ↔ (∃ ρ, Sat ρ (initFmls cfg' st') ∧ 0 ≤ ρ.i .horizon)) ∧
    (∀ ρ, Sat ρ (initFmls cfg st) → 0 ≤ ρ.i .horizon → Sat (envOf st' (schedOf ρ)) (initFmls cfg' st')) :=
  ⟨C14_core_verdict cfg cfg' st st' hc hc' (fun σ => Valid_renumber st st' σ h hc hc' hdel hdel'),
   fun ρ hρ hH => C14_core_schedules cfg cfg' st st' hc hc' (fun σ => Valid_renumber st st' σ h hc hc' hdel hdel') ρ hρ hH⟩

/-- the constraint with its tasks replaced (the classes whose meaning reads task times and flags) -/
def CBody.mapTasks (f : Task → Task) : CBody → CBody
  | .startAt t v => .startAt (f t) v
  | .startAfter t v s => .startAfter (f t) v s
  | .endAt t v => .endAt (f t) v
  | .endBefore t v s => .endBefore (f t) v s
  | .precedence a b off k => .precedence (f a) (f b) off k
  | .startSynced a b => .startSynced (f a) (f b)
  | .endSynced a b => .endSynced (f a) (f b)
  | .dontOverlap a b => .dontOverlap (f a) (f b)
  | .forceSchedule t b => .forceSchedule (f t) b
  | .dependency a b => .dependency (f a) (f b)
  | .forceScheduleN ts n k => .forceScheduleN (ts.map f) n k
  | b => b

/-- the first arm of `CBody.inCoreS`: `CBody.taskExact`, TasksDontOverlap, and the two classes on applied and selection
    flags, which name no task -/
def CBody.isTimeClass : CBody → Bool
  | .startAt .. | .startAfter .. | .endAt .. | .endBefore .. | .precedence .. | .startSynced .. | .endSynced ..
  | .dontOverlap .. | .forceSchedule .. | .dependency .. | .forceScheduleN .. | .forceApplyN .. | .sameWorkers .. => true
  | _ => false

theorem CoreMeaning_renumTasks (st st' : State) (σ : Sched) (f : Task → Task) (hf : ∀ t, ∃ k, f t = t.renum k)
    (b : CBody) (hb : b.isTimeClass = true) : CoreMeaning st σ b ↔ CoreMeaning st' σ (b.mapTasks f) := by
  -- these classes read a task through its name and its scheduled flag only
  have hn : ∀ t, (f t).name = t.name := fun t => by obtain ⟨k, hk⟩ := hf t; rw [hk]; rfl
  have hs : ∀ t, σ.isSched (f t) = σ.isSched t := fun t => by obtain ⟨k, hk⟩ := hf t; rw [hk]; rfl
  cases b <;> simp only [CBody.isTimeClass, Bool.false_eq_true] at hb <;>
    simp only [CBody.mapTasks, CoreMeaning, hn, hs, List.countP_map, Function.comp_def]

/-! ### the executable relation (`State.numbersIntoB`, evaluated by the driver on pairs of scripts) is sound -/

theorem sameDecl_iff {t t' : Task} : t.sameDecl t' = true ↔ t'.renum 0 = t.renum 0 := by
  unfold Task.sameDecl
  rw [beq_iff_eq]
  constructor
  · intro h; rw [h]; rfl
  · intro h; cases t; cases t'; simp only [Task.renum, Task.mk.injEq] at h ⊢; simp only [h, and_self]

theorem sameDeclList_iff : ∀ {ts ts' : List Task}, sameDeclList ts ts' = true ↔ ts'.map (·.renum 0) = ts.map (·.renum 0)
  | [], [] => by simp [sameDeclList]
  | t :: ts, t' :: ts' => by
      simp only [sameDeclList, Bool.and_eq_true, sameDecl_iff, sameDeclList_iff, List.map_cons, List.cons.injEq]
  | [], _ :: _ => by simp [sameDeclList]
  | _ :: _, [] => by simp [sameDeclList]

theorem sameUpTo_norm {b b' : CBody} (h : b.sameUpTo b' = true) :
    b.isTimeClass = true ∧ b'.isTimeClass = true ∧ b'.mapTasks (·.renum 0) = b.mapTasks (·.renum 0) := by
  unfold CBody.sameUpTo at h
  split at h <;> simp only [Bool.and_eq_true, beq_iff_eq, sameDecl_iff, sameDeclList_iff, Bool.false_eq_true] at h <;>
    simp only [CBody.isTimeClass, CBody.mapTasks, h, and_self]

theorem CoreMeaning_sameUpTo (st st' : State) (σ : Sched) (b b' : CBody) (h : b.sameUpTo b' = true) :
    CoreMeaning st σ b ↔ CoreMeaning st' σ b' := by
  obtain ⟨h1, h2, h3⟩ := sameUpTo_norm h
  rw [CoreMeaning_renumTasks st st σ (·.renum 0) (fun _ => ⟨0, rfl⟩) b h1,
    CoreMeaning_renumTasks st' st σ (·.renum 0) (fun _ => ⟨0, rfl⟩) b' h2, h3]

theorem numbersIntoB_sound {st st' : State} (h : st.numbersIntoB st' = true) : NumbersInto st st' := by
  unfold State.numbersIntoB at h
  simp only [Bool.and_eq_true, decide_eq_true_eq] at h
  obtain ⟨⟨⟨⟨hh, ht⟩, hw⟩, hl⟩, hc⟩ := h
  refine ⟨hh, ?_, fun w hm => hw ▸ hm, ?_, ?_, ?_, ?_⟩
  · intro t htm
    obtain ⟨t', ht', hs⟩ := List.any_eq_true.1 ((List.all_eq_true.1 ht) t htm)
    exact ⟨t', ht', eq_of_beq hs⟩
  · intro n; unfold State.findWorker; rw [hw]
  · intro n; unfold State.reqsOf State.eventsOf; rw [hl]
  · intro n; unfold State.eventsOf; rw [hl]
  · intro c hcm hop
    have := (List.all_eq_true.1 hc) c hcm
    simp only [hop, Bool.false_or] at this
    obtain ⟨c', hc', h1⟩ := List.any_eq_true.1 this
    simp only [Bool.and_eq_true, Bool.not_eq_true', beq_iff_eq, Bool.or_eq_true] at h1
    refine ⟨c', hc', h1.1.1.1, ?_, h1.1.2, fun σ => CoreMeaning_sameUpTo st st' σ c.body c'.body h1.2⟩
    intro ho
    rcases h1.1.1.2 with h | h
    · rw [ho] at h; exact absurd h (by simp)
    · exact h

theorem delaysBelowB_sound {st : State} (h : st.delaysBelowB = true) : DelaysBelowNumber st := by
  intro t ht r hr
  have := (List.all_eq_true.1 ((List.all_eq_true.1 h) t ht)) r hr
  simpa using this

/-- **the executable test is sufficient**: two reachable states that pass `tasksOrderTheoremB` — which the driver
    evaluates on the models of a script and of its task-permuted twin — get the same feasibility verdict from the
    encoder and admit the same schedules -/
theorem tasksOrderTheoremB_sound (cfg cfg' : Config) (st st' : State) (hr : Reachable st) (hr' : Reachable st')
    (h : st.tasksOrderTheoremB st' = true) :
    ((∃ ρ, Sat ρ (initFmls cfg st) ∧ 0 ≤ ρ.i .horizon) ↔ (∃ ρ, Sat ρ (initFmls cfg' st') ∧ 0 ≤ ρ.i .horizon)) ∧
    (∀ ρ, Sat ρ (initFmls cfg st) → 0 ≤ ρ.i .horizon → Sat (envOf st' (schedOf ρ)) (initFmls cfg' st')) := by
  unfold State.tasksOrderTheoremB at h
  simp only [Bool.and_eq_true] at h
  obtain ⟨⟨⟨⟨⟨h1, h2⟩, h3⟩, h4⟩, h5⟩, h6⟩ := h
  exact C14_tasks_order_verdict cfg cfg' st st' ⟨numbersIntoB_sound h1, numbersIntoB_sound h2⟩
    (fragmentB_sound hr h3) (fragmentB_sound hr' h4) (delaysBelowB_sound h5) (delaysBelowB_sound h6)

/-! ### non-vacuity: one problem, its two tasks declared in either order -/

def Renum_exA : State :=
  run [.problem "p" (some 12),
       .task "A" (.fixed 3) false 2 (some 1) (some 9) true 1,
       .task "B" (.var 1 (some 4) (some [2, 3])) true 0 none none true 1,
       .worker "W" 1 (.const 0),
       .require "A" (.worker "W") false 0 0,
       .require "B" (.worker "W") false 0 0,
       .constr none false (.precedence "A" "B" 1 .lax),
       .constr none true (.startAt "A" 2)]

def Renum_exB : State :=
  run [.problem "p" (some 12),
       .task "B" (.var 1 (some 4) (some [2, 3])) true 0 none none true 1,
       .task "A" (.fixed 3) false 2 (some 1) (some 9) true 1,
       .worker "W" 1 (.const 0),
       .require "A" (.worker "W") false 0 0,
       .require "B" (.worker "W") false 0 0,
       .constr none false (.precedence "A" "B" 1 .lax),
       .constr none true (.startAt "A" 2)]

-- the two problems emit different formulas: the optional task "B" is parked at −2 in one and at −1 in the other
example : (Renum_exA.tasks.map (fun t => (t.name, t.pastPoint))) = [("A", -1), ("B", -2)] ∧
    (Renum_exB.tasks.map (fun t => (t.name, t.pastPoint))) = [("B", -1), ("A", -2)] := by decide +kernel

theorem Renum_ex_test : Renum_exA.tasksOrderTheoremB Renum_exB = true := by decide +kernel

example : Renum_exA.tasksOrderTheoremB Renum_exB = true := Renum_ex_test

theorem Renum_ex_same : SameUpToNumbers Renum_exA Renum_exB := by
  have h := Renum_ex_test
  simp only [State.tasksOrderTheoremB, Bool.and_eq_true] at h
  obtain ⟨⟨⟨⟨⟨h1, h2⟩, _⟩, _⟩, _⟩, _⟩ := h
  exact ⟨numbersIntoB_sound h1, numbersIntoB_sound h2⟩

/-- … and yet the encoder's verdict and admitted schedules are the same for both declaration orders -/
theorem Renum_ex_verdict :
    ((∃ ρ, Sat ρ (initFmls {} Renum_exA) ∧ 0 ≤ ρ.i .horizon) ↔ (∃ ρ, Sat ρ (initFmls {} Renum_exB) ∧ 0 ≤ ρ.i .horizon)) ∧
    (∀ ρ, Sat ρ (initFmls {} Renum_exA) → 0 ≤ ρ.i .horizon → Sat (envOf Renum_exB (schedOf ρ)) (initFmls {} Renum_exB)) :=
  tasksOrderTheoremB_sound {} {} _ _ ⟨_, rfl⟩ ⟨_, rfl⟩ Renum_ex_test

theorem dropTaskB_eq (st : State) (n : String) : st.dropTaskB n = st.dropTask n := rfl

theorem isGuardedB_eq (b : CBody) : b.isGuardedB = b.isGuarded := by cases b <;> rfl

/-- **C06 on a pair of scripts.** `full` is the state of a script, `without` the state of the script with every
    declaration about the optional task `n` removed.  If the pair passes the executable test `dropTaskTheoremB` (which
    the driver evaluates), then a schedule that leaves `n` unscheduled is valid for the full problem iff it is valid
    for the problem the shorter script declares. -/
theorem C06_deletion_sound (full without : State) (n : String) (hr : Reachable full) (hr' : Reachable without)
    (h : full.dropTaskTheoremB without n = true) (σ : Sched) (hu : σ.sched n = false) :
    Valid full σ ↔ Valid without σ := by
  unfold State.dropTaskTheoremB at h
  simp only [Bool.and_eq_true, dropTaskB_eq, isGuardedB_eq] at h
  obtain ⟨⟨⟨⟨⟨⟨⟨⟨⟨⟨hopt, n1⟩, n2⟩, f1⟩, f2⟩, f3⟩, d1⟩, d2⟩, d3⟩, hsel⟩, hgd⟩ := h
  have cF : InCoreS full := fragmentB_sound hr f1
  have cD : InCoreS (full.dropTask n) := fragmentB_sound_wf (WFInv_dropTask (reachable_wf full hr) n) f2
  have step2 : Valid (full.dropTask n) σ ↔ Valid without σ :=
    Valid_renumber _ _ σ ⟨numbersIntoB_sound n1, numbersIntoB_sound n2⟩ cD (fragmentB_sound hr' f3)
      (delaysBelowB_sound d2) (delaysBelowB_sound d3)
  cases hft : full.findTask n with
  | none => simp [hft] at hopt
  | some t =>
      simp only [hft] at hopt
      obtain ⟨htm, htn⟩ := find?_beq_some hft
      exact ⟨fun hv => step2.1 (C06_absent_restrict full n σ cD hv),
        fun hv => C06_absent_extend_guarded full n σ cF cD t hft hopt hu
          (fun r hr2 => delaysBelowB_sound d1 t htm r (htn ▸ hr2)) hsel hgd (step2.2 hv)⟩

end PS
