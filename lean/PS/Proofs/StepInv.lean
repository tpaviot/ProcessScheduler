/-
  PS.Proofs.StepInv — invariants of the constructor model `step` over whole scripts.
  A constructor call does nothing, resets the registries (`SchedulingProblem`), or appends to them after its checks:
  `Upd` names these elementary updates, `step_upd` shows every call is a chain of them, and an invariant of reachable
  states is proved by induction over `Upd`, where only the updates that touch what it reads need an argument.
  Here: every constraint a later connective refers to is marked as an operand (`C10_operands_marked`);
  `PS/Proofs/StepWF.lean` has the well-formedness invariants.
-/
import PS.Proofs.StepCases
import PS.Proofs.BusyDict
import PS.Theorems.C02
namespace PS

inductive Upd : State → State → Prop
  | refl (st : State) : Upd st st
  | trans {a b c : State} : Upd a b → Upd b c → Upd a c
  | problem (st : State) (name : String) (h : Option Int) : Upd st { active := true, pname := name, horizon := h }
  | task (st : State) (t : Task) : st.tasks.any (·.name == t.name) = false → Upd st { st with tasks := st.tasks ++ [t] }
  | worker (st : State) (w : Worker) : st.workers.any (·.name == w.name) = false →
      Upd st { st with workers := st.workers ++ [w] }
  | cumul (st : State) (c : Cumul) : Upd st { st with cumuls := st.cumuls ++ [c] }
  | select (st : State) (s : Select) : Upd st { st with selects := st.selects ++ [s] }
  | require (st : State) (ev : ReqEvent) (k : Nat) : ev.WF → (∃ t ∈ st.tasks, t.name = ev.task) →
      Upd st { st with reqLog := st.reqLog ++ [ev], nPast := st.nPast + k }
  | constr (st : State) (c : Constr) : c.id = st.constrs.length →
      Upd st ({ st with constrs := st.constrs ++ [c] }.markOperands c.refs)
  | buffer (st : State) (b : Buffer) : Upd st { st with buffers := st.buffers ++ [b] }
  | indicator (st : State) (i : Indicator) : Upd st { st with indicators := st.indicators ++ [i] }
  | objective (st : State) (o : Objective) : Upd st { st with objectives := st.objectives ++ [o] }

theorem Upd.ite {st : State} {c : Prop} [Decidable c] {a b : Res} (ha : Upd st a.1) (hb : ¬ c → Upd st b.1) :
    Upd st (if c then a else b).1 :=
  Res.ite_ind (P := fun r => Upd st r.1) ha hb

theorem Upd.seq {st : State} {r : Res} {k : State → Res} (hr : Upd st r.1) (hk : Upd r.1 (k r.1).1) :
    Upd st (match r with | (st', none) => k st' | r => r).1 :=
  Res.seq_ind (P := fun r => Upd st r.1) hr fun _ => hr.trans hk

theorem stepProblem_upd (st : State) (name h) : Upd st (stepProblem st name h).1 := by
  cases h with
  | none => exact .problem st name none
  | some h => exact .ite (.problem ..) fun _ => .refl _

theorem stepTask_upd (st : State) (name kind optional work release due deadline prio) :
    Upd st (stepTask st name kind optional work release due deadline prio).1 :=
  .ite (.refl _) fun _ => .ite (.refl _) fun _ => .ite (.refl _) fun h => .task st _ (Bool.eq_false_iff.2 h)

theorem stepWorker_upd (st : State) (name prod cost co) : Upd st (stepWorker st name prod cost co).1 :=
  .ite (.refl _) fun _ => .ite (.refl _) fun _ => .ite (.refl _) fun h => .worker st _ (Bool.eq_false_iff.2 h)

theorem addUnits_upd (cname : String) : ∀ (units : List (String × Int × Int)) (st : State),
    Upd st (addUnits st cname units).1
  | [], _ => .refl _
  | (n, p, c) :: rest, st => .seq (stepWorker_upd st n p (.const c) (some cname)) (addUnits_upd cname rest _)

theorem stepCumulative_upd (st : State) (name size prod cost) : Upd st (stepCumulative st name size prod cost).1 := by
  unfold stepCumulative
  refine .ite (.refl _) fun _ => ?_
  cases cost with
  | const k => exact .seq (addUnits_upd ..) (.ite (.refl _) fun _ => .cumul ..)
  | _ => exact .refl _

theorem stepSelect_upd (st : State) (name workers n kind) : Upd st (stepSelect st name workers n kind).1 :=
  .ite (.refl _) fun _ => .ite (.refl _) fun _ => .ite (.refl _) fun _ => .ite (.refl _) fun _ => .ite (.refl _) fun _ =>
    .select ..

theorem stepSelect_tasks (st : State) (name workers n kind) : (stepSelect st name workers n kind).1.tasks = st.tasks := by
  unfold stepSelect
  iterate 5 refine Res.ite_ind (P := fun r => r.1.tasks = st.tasks) rfl fun _ => ?_
  rfl

theorem requireSelect_upd (st : State) (t : Task) (ht : t ∈ st.tasks) (s : Select) : Upd st (requireSelect st t s).1 := by
  unfold requireSelect
  dsimp only
  split <;> exact .require st (.viaSelect t.name s _ _) s.workers.length (selReqs_wf _ _ _) ⟨t, ht, rfl⟩

theorem stepRequire_upd (st : State) (task res dynamic d e) : Upd st (stepRequire st task res dynamic d e).1 := by
  unfold stepRequire
  split
  next => exact .refl _
  next t hf =>
    obtain ⟨htm, htn⟩ := find?_beq_some hf
    split
    · split
      · exact .refl _
      · exact .ite (.refl _) fun _ => .require st (.direct task _) 0 ⟨rfl, rfl⟩ ⟨t, htm, htn⟩
    · split
      · exact .refl _
      · exact .ite (.refl _) fun _ => requireSelect_upd st t htm _
    · split
      · exact .refl _
      · -- a cumulative worker is required through a selection over its units, created first
        refine .seq (stepSelect_upd ..) ?_
        split
        · exact requireSelect_upd _ t ((stepSelect_tasks st ..).symm ▸ htm) _
        · exact .refl _

theorem stepConstr_upd (st : State) (name : Option String) (optional : Bool) (d : CDecl) :
    Upd st (stepConstr st name optional d).1 :=
  stepConstr_ind (P := fun r => Upd st r.1) name optional d (fun _ => .refl _) fun _ c _ hid _ => .constr st c hid

theorem stepBuffer_upd (st : State) (name conc i f lb ub) : Upd st (stepBuffer st name conc i f lb ub).1 :=
  .ite (.refl _) fun _ => .ite (.refl _) fun _ => .ite (.refl _) fun _ => .buffer ..

theorem addIndicator_upd (st : State) (cls key name bounds body) : Upd st (st.addIndicator cls key name bounds body).1 := by
  refine .ite (.refl _) fun _ => .ite (.refl _) fun _ => ?_
  dsimp only
  split <;> exact .indicator ..

theorem addObjective_upd (st : State) (name target bounds weight maximize) :
    Upd st (st.addObjective name target bounds weight maximize).1 :=
  .ite (.refl _) fun _ => .ite (.refl _) fun _ => .objective ..

theorem indThenObj_upd (st : State) (cls key iname bounds body oname maximize) :
    Upd st (st.indThenObj cls key iname bounds body oname maximize).1 := by
  refine .seq (addIndicator_upd ..) ?_
  split
  · exact addObjective_upd ..
  · exact .refl _

theorem stepIndicator_upd (st : State) (d) : Upd st (stepIndicator st d).1 := by
  unfold stepIndicator
  split
  · exact .refl _
  · exact addIndicator_upd ..

theorem stepObjective_upd (st : State) (d) : Upd st (stepObjective st d).1 :=
  stepObjective_ind (P := fun r => Upd st r.1) (fun _ => .refl _) (fun _ _ _ _ _ => addObjective_upd ..)
    (fun _ _ _ _ _ _ _ => indThenObj_upd ..) (fun _ _ _ _ _ _ => .seq (addIndicator_upd ..) (.refl _)) d

theorem step_upd (st : State) (d : Decl) : Upd st (step st d).1 := by
  cases d with
  | problem => exact stepProblem_upd ..
  | task => exact stepTask_upd ..
  | worker => exact stepWorker_upd ..
  | cumulative => exact stepCumulative_upd ..
  | select => exact stepSelect_upd ..
  | require => exact stepRequire_upd ..
  | constr => exact stepConstr_upd ..
  | buffer => exact stepBuffer_upd ..
  | indicator => exact stepIndicator_upd ..
  | objective => exact stepObjective_upd ..

theorem foldl_step_upd : ∀ (ds : List Decl) (s : State), Upd s (ds.foldl (fun st d => (step st d).1) s)
  | [], s => .refl s
  | d :: ds, s => (step_upd s d).trans (foldl_step_upd ds _)

theorem Reachable.upd {st : State} (hr : Reachable st) : Upd {} st := by
  obtain ⟨ds, rfl⟩ := hr
  exact foldl_step_upd ds {}

def IdsLt (st : State) : Prop := ∀ c ∈ st.constrs, c.id < st.constrs.length

/-- every earlier constraint a connective refers to as an operand is marked (`_created_from_assertion`) -/
def Marked (st : State) : Prop :=
  ∀ c ∈ st.constrs, ∀ i ∈ c.refs, ∀ d ∈ st.constrs, d.id = i → d.id < c.id → d.operand = true

theorem mem_markOperands {st : State} {ids : List Nat} {c' : Constr} (h : c' ∈ (st.markOperands ids).constrs) :
    ∃ c ∈ st.constrs, c'.id = c.id ∧ c'.refs = c.refs ∧ c'.operand = (ids.contains c.id || c.operand) := by
  obtain ⟨c, hc, rfl⟩ := List.mem_map.1 h
  refine ⟨c, hc, ?_⟩
  split
  next hi => simp only [hi, Bool.true_or, and_self]
  next hi => simp only [hi, Bool.false_or, and_self]

theorem append_mark_inv (st : State) (c : Constr) (hid : c.id = st.constrs.length)
    (h1 : IdsLt st) (h2 : Marked st) :
    IdsLt ({ st with constrs := st.constrs ++ [c] }.markOperands c.refs) ∧
    Marked ({ st with constrs := st.constrs ++ [c] }.markOperands c.refs) := by
  have old : ∀ c0 ∈ st.constrs ++ [c], c0 ∈ st.constrs ∨ c0 = c := fun c0 h =>
    (List.mem_append.1 h).imp_right List.mem_singleton.1
  constructor
  · intro c' hc'
    obtain ⟨c0, hc0, e, -, -⟩ := mem_markOperands hc'
    have hlen : ({ st with constrs := st.constrs ++ [c] }.markOperands c.refs).constrs.length = st.constrs.length + 1 := by
      rw [State.markOperands, List.length_map, List.length_append]; rfl
    rw [hlen, e]
    rcases old c0 hc0 with h | rfl
    · exact Nat.lt_succ_of_lt (h1 c0 h)
    · exact hid ▸ Nat.lt_succ_self _
  · intro c' hc' i hi d' hd' hdi hlt
    obtain ⟨c0, hc0, e1, e2, -⟩ := mem_markOperands hc'
    obtain ⟨d0, hd0, f1, -, f3⟩ := mem_markOperands hd'
    rw [e2] at hi
    rw [f1] at hdi hlt
    rw [e1] at hlt
    rw [f3]
    rcases old c0 hc0 with hc | rfl
    · rcases old d0 hd0 with hd | rfl
      · rw [h2 c0 hc i hi d0 hd hdi hlt, Bool.or_true]
      · -- the new constraint cannot be an earlier operand of an old one
        exact absurd (hid ▸ hlt) (Nat.lt_asymm (h1 c0 hc))
    · -- the new constraint: its references are exactly what gets marked
      rw [hdi, List.contains_iff_mem.2 hi, Bool.true_or]

theorem Upd.marked {st st' : State} (h : Upd st st') (w : IdsLt st ∧ Marked st) : IdsLt st' ∧ Marked st' := by
  induction h with
  | refl => exact w
  | trans _ _ ih1 ih2 => exact ih2 (ih1 w)
  | problem => exact ⟨List.forall_mem_nil _, List.forall_mem_nil _⟩
  | constr st c hid => exact append_mark_inv st c hid w.1 w.2
  | _ => exact w

/-- **C10 (operand marking).**  In every state a construction script can produce, every constraint that a later
    connective (Not / Or / And / Xor / Implies / IfThenElse, at any depth) refers to is marked as an operand (a
    force-apply rule records no reference and marks nothing, in the model as in the code). -/
theorem C10_operands_marked (st : State) (hr : Reachable st) : IdsLt st ∧ Marked st :=
  hr.upd.marked ⟨List.forall_mem_nil _, List.forall_mem_nil _⟩

end PS
