/-
  PS.Proofs.Sem — the generic part of the simp set `sem`.  What the set does and what it holds is said at the attribute
  (`PS.Proofs.SemAttr`); here, the forms it leaves and what is kept out of it.

  Normal forms: a conjunction `Fml.evalAll ρ l` is read as `Sat ρ l`; the value of a variable is `ρ.i v` / `ρ.b v`
  (the abbreviations `Task.startV`, `Task.endV` and, tagged in C04, `BusyRef.sV`, `BusyRef.eV` of the specifications are
  unfolded, so that both sides of a comparison with an encoder term meet); a sum of mapped terms is `(l.map …).sum` (`evalSum_map`), a
  count of Boolean variables `l.countP …` (`count_map_bvar`).  A count of other formulas over a mapped list is left as
  `Fml.count ρ (l.map …)`: the caller adds `count_map` with the test the formulas stand for.  `Fml.eval_ite` (at the end
  of the file) is not in the set: it would split every `if` of the encoder; the caller adds it where it wants that
  (for an `if` between terms: `apply_ite (Term.eval ρ)`).
-/
import PS.Model.Indicator
import PS.Spec.Basic
import PS.Proofs.SemAttr
namespace PS

attribute [sem] Fml.eval Term.eval Term.evalSum Fml.evalAny numT Task.sVar Task.eVar Task.dVar bS bE BusyRef.s BusyRef.e
  Task.startV Task.endV evalAll_eq_Sat Sat.nil Sat.cons Sat.append and_true true_and or_false

theorem numT_eval (n : Int) (ρ : Env) : (numT n).eval ρ = n := rfl

section Sat
variable {ρ : Env} {α : Type _}

@[sem] theorem Sat_map {l : List α} {f : α → Fml} : Sat ρ (l.map f) ↔ ∀ x ∈ l, (f x).eval ρ := by
  simp [Sat]

@[sem] theorem Sat_flatMap {l : List α} {f : α → List Fml} : Sat ρ (l.flatMap f) ↔ ∀ x ∈ l, Sat ρ (f x) := by
  simp only [Sat, List.mem_flatMap]
  exact ⟨fun h x hx a ha => h a ⟨x, hx, ha⟩, fun h a ⟨x, hx, ha⟩ => h x hx a ha⟩

@[sem] theorem Sat_filterMap {l : List α} {f : α → Option Fml} :
    Sat ρ (l.filterMap f) ↔ ∀ x ∈ l, ∀ a, f x = some a → a.eval ρ := by
  simp only [Sat, List.mem_filterMap]
  exact ⟨fun h x hx a ha => h a ⟨x, hx, ha⟩, fun h a ⟨x, hx, ha⟩ => h x hx a ha⟩

@[sem] theorem Sat_flatten {os : List (List Fml)} : Sat ρ os.flatten ↔ ∀ o ∈ os, Sat ρ o := by
  rw [← List.flatMap_id', Sat_flatMap]

@[sem] theorem Sat_ite {c : Prop} [Decidable c] {A B : List Fml} :
    Sat ρ (if c then A else B) ↔ (c → Sat ρ A) ∧ (¬ c → Sat ρ B) := by
  by_cases h : c <;> simp [h]

@[sem] theorem evalAny_map {l : List α} {f : α → Fml} : Fml.evalAny ρ (l.map f) ↔ ∃ x ∈ l, (f x).eval ρ := by
  induction l with
  | nil => simp [Fml.evalAny]
  | cons x xs ih => simp [Fml.evalAny, ih]

theorem evalAny_flatMap {l : List α} {f : α → List Fml} :
    Fml.evalAny ρ (l.flatMap f) ↔ ∃ x ∈ l, Fml.evalAny ρ (f x) := by
  simp only [evalAny_iff, List.mem_flatMap]
  exact ⟨fun ⟨a, ⟨x, hx, ha⟩, h⟩ => ⟨x, hx, a, ha, h⟩, fun ⟨x, hx, a, ha, h⟩ => ⟨a, ⟨x, hx, ha⟩, h⟩⟩

open Classical in
theorem Fml.count_eq_countP (ρ : Env) (l : List Fml) : Fml.count ρ l = l.countP (fun a => decide (a.eval ρ)) := by
  induction l with
  | nil => rfl
  | cons a as ih =>
      rw [Fml.count, ih, List.countP_cons, Nat.add_comm]
      simp only [decide_eq_true_eq]

theorem count_append (ρ : Env) (a b : List Fml) : Fml.count ρ (a ++ b) = Fml.count ρ a + Fml.count ρ b := by
  simp only [Fml.count_eq_countP, List.countP_append]

open Classical in
theorem count_pos_exists (ρ : Env) (l : List Fml) (h : 0 < Fml.count ρ l) : ∃ a ∈ l, a.eval ρ := by
  rw [Fml.count_eq_countP, List.countP_pos_iff] at h
  obtain ⟨a, ha, hae⟩ := h
  exact ⟨a, ha, of_decide_eq_true hae⟩

open Classical in
theorem count_flatMap_le (ρ : Env) (f : α → List Fml) (p : α → Prop) : ∀ l : List α,
    (∀ x ∈ l, Fml.count ρ (f x) ≤ if p x then 1 else 0) → Fml.count ρ (l.flatMap f) ≤ l.countP (fun x => decide (p x))
  | [], _ => Nat.le_refl 0
  | x :: xs, h => by
      rw [List.flatMap_cons, count_append, List.countP_cons, Nat.add_comm]
      refine Nat.add_le_add (count_flatMap_le ρ f p xs fun y hy => h y (List.mem_cons_of_mem _ hy)) ?_
      simpa only [decide_eq_true_eq] using h x List.mem_cons_self

theorem count_map (ρ : Env) (l : List α) (f : α → Fml) (p : α → Bool) (h : ∀ x ∈ l, ((f x).eval ρ ↔ p x = true)) :
    Fml.count ρ (l.map f) = l.countP p := by
  rw [Fml.count_eq_countP, List.countP_map]
  exact List.countP_congr fun x hx => by simp [h x hx]

@[sem] theorem count_map_bvar (ρ : Env) (v : α → BVar) (l : List α) :
    Fml.count ρ (l.map (fun x => Fml.bvar (v x))) = l.countP (fun x => ρ.b (v x)) :=
  count_map ρ l _ _ fun _ _ => Iff.rfl

/-- `CountOK` (C02) and the `match` written out in `TaskMeaning` (C03) and `C10_forceApplyN` unfold to this `match` on
    the count kind: the proofs that bring a count to one of them end in `Iff.rfl` or `exact h`. -/
@[sem] theorem pbFun_eval (k : CountKind) (l : List Fml) (n : Nat) :
    (pbFun k l n).eval ρ ↔
      match k with
      | .exact => Fml.count ρ l = n
      | .min => n ≤ Fml.count ρ l
      | .max => Fml.count ρ l ≤ n := by
  cases k <;> simp only [pbFun, Fml.eval]

end Sat

theorem Term.evalSum_eq_sum (ρ : Env) (l : List Term) : Term.evalSum ρ l = (l.map (·.eval ρ)).sum := by
  induction l with
  | nil => rfl
  | cons x xs ih => simp only [Term.evalSum, ih, List.map_cons, List.sum_cons]

@[sem] theorem evalSum_map {α} (ρ : Env) (l : List α) (f : α → Term) :
    Term.evalSum ρ (l.map f) = (l.map (fun x => (f x).eval ρ)).sum := by
  rw [Term.evalSum_eq_sum, List.map_map]; rfl

theorem evalSum_append (ρ : Env) (a b : List Term) : Term.evalSum ρ (a ++ b) = Term.evalSum ρ a + Term.evalSum ρ b := by
  simp [Term.evalSum_eq_sum]

theorem evalSum_flatMap {α} (ρ : Env) (l : List α) (f : α → List Term) :
    Term.evalSum ρ (l.flatMap f) = (l.map (fun x => Term.evalSum ρ (f x))).sum := by
  induction l with
  | nil => rfl
  | cons x xs ih => simp [evalSum_append, ih]

theorem evalSum_congr_pointwise (ρ ρ' : Env) (l : List Term) (h : ∀ x ∈ l, x.eval ρ' = x.eval ρ) :
    Term.evalSum ρ' l = Term.evalSum ρ l := by
  rw [Term.evalSum_eq_sum, Term.evalSum_eq_sum, List.map_congr_left h]

theorem sum_map_le_sum_map {α} (l : List α) (f g : α → Int) (h : ∀ x ∈ l, f x ≤ g x) :
    (l.map f).sum ≤ (l.map g).sum := by
  induction l with
  | nil => exact Int.le_refl _
  | cons x xs ih =>
      exact Int.add_le_add (h x List.mem_cons_self) (ih fun y hy => h y (List.mem_cons_of_mem _ hy))

@[sem] theorem sumOrZero_evalSum (ρ : Env) (l : List Term) : (sumOrZero l).eval ρ = Term.evalSum ρ l := by
  cases l <;> rfl

theorem Scheduled.not_iff {ρ : Env} {t : Task} : ¬ Scheduled ρ t ↔ t.optional = true ∧ ρ.b (.sched t.name) = false := by
  simp [Scheduled, not_or]

@[sem] theorem schedF_eval (t : Task) (ρ : Env) : t.schedF.eval ρ ↔ Scheduled ρ t := by
  unfold Task.schedF Scheduled
  cases t.optional <;> simp [Fml.eval]

@[sem] theorem guard1_eval (t : Task) (f : Fml) (ρ : Env) : (guard1 t f).eval ρ ↔ (Scheduled ρ t → f.eval ρ) := by
  unfold guard1 Scheduled
  cases t.optional <;> simp [Fml.eval]

@[sem] theorem guard2_eval (t1 t2 : Task) (f : Fml) (ρ : Env) :
    (guard2 t1 t2 f).eval ρ ↔ (Scheduled ρ t1 → Scheduled ρ t2 → f.eval ρ) := by
  unfold guard2 Scheduled Task.schedF
  cases t1.optional <;> cases t2.optional <;> simp [Fml.eval, Fml.evalAll]

theorem Fml.eval_ite {ρ : Env} {c : Prop} [Decidable c] {A B : Fml} :
    (if c then A else B).eval ρ ↔ (c → A.eval ρ) ∧ (¬ c → B.eval ρ) := by
  by_cases h : c <;> simp [h]

/-- `Term.eval` decides the condition of an `ite` classically, the documented values use the ordinary instances: hence
    any decidable `p` equivalent to the condition -/
theorem Term.eval_ite_of_iff {ρ : Env} {c : Fml} {p : Prop} [Decidable p] (h : c.eval ρ ↔ p) (a b : Term) :
    (Term.ite c a b).eval ρ = if p then a.eval ρ else b.eval ρ := by
  simp only [Term.eval]
  by_cases hp : p
  · rw [if_pos hp, if_pos (h.2 hp)]
  · rw [if_neg hp, if_neg (fun hc => hp (h.1 hc))]

end PS
