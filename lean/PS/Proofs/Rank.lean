/-
  PS.Proofs.Rank — the rank of an element in a sorted list, and the pairwise reading of the "i-th sorted end against
  (i+1)-th sorted start" statements behind the gap constraints (ResourceNonDelay, ResourceTasksDistance, TasksContiguous).
-/
import PS.Proofs.Sort
namespace PS

theorem countP_lt_getElem_of_sorted (L : List Int) (hs : L.Pairwise (· < ·)) (j : Nat) (hj : j < L.length) :
    L.countP (fun x => decide (x < L[j])) = j := by
  induction L generalizing j with
  | nil => exact absurd hj (Nat.not_lt_zero _)
  | cons a t ih =>
      rw [List.pairwise_cons] at hs
      cases j with
      | zero =>
          rw [List.getElem_cons_zero, List.countP_cons_of_neg (by simp), List.countP_eq_zero]
          exact fun x hx => by simpa using (hs.1 x hx).le
      | succ j =>
          have hj' : j < t.length := Nat.lt_of_succ_lt_succ hj
          rw [List.getElem_cons_succ, List.countP_cons_of_pos (by simpa using hs.1 _ (List.getElem_mem hj')),
            ih hs.2 j hj']

theorem getElem_succ_of_sorted (L : List Int) (hL : L.Pairwise (· < ·)) (k : Nat) (hk : k < L.length) (y : Int)
    (hy : y ∈ L) (hlt : L[k] < y) (hno : ∀ z ∈ L, ¬ (L[k] < z ∧ z < y)) : ∃ h : k + 1 < L.length, L[k + 1] = y := by
  obtain ⟨j, hj, rfl⟩ := List.getElem_of_mem hy
  have hmono := List.pairwise_iff_getElem.1 hL
  have hkj : k < j := by
    by_contra hn
    rcases Nat.lt_or_eq_of_le (Nat.le_of_not_lt hn) with h | rfl
    · exact lt_asymm hlt (hmono j k hj hk h)
    · exact lt_irrefl _ hlt
  have hk1 : k + 1 < L.length := Nat.lt_of_le_of_lt hkj hj
  have hjk : j = k + 1 := by
    by_contra hn
    exact hno _ (List.getElem_mem hk1) ⟨hmono k (k + 1) hk hk1 (Nat.lt_succ_self k),
      hmono (k + 1) j hk1 hj (Nat.lt_of_le_of_ne hkj (Ne.symm hn))⟩
  subst hjk
  exact ⟨hj, rfl⟩

theorem sortInts_sorted_lt (X : List Int) (hnd : X.Nodup) : (sortInts X).Pairwise (· < ·) :=
  ((sortInts_sorted X).and ((sortInts_perm X).nodup_iff.2 hnd)).imp (fun h => by omega)

theorem sortInts_rank (X : List Int) (hnd : X.Nodup) (j : Nat) (hj : j < (sortInts X).length) :
    X.countP (fun y => decide (y < (sortInts X)[j])) = j := by
  rw [← (sortInts_perm X).countP_eq]
  exact countP_lt_getElem_of_sorted _ (sortInts_sorted_lt X hnd) j hj

theorem sortInts_getD_rank (X : List Int) (hnd : X.Nodup) (x : Int) (hx : x ∈ X) :
    (sortInts X).getD (X.countP (fun y => decide (y < x))) 0 = x := by
  obtain ⟨j, hj, rfl⟩ := List.getElem_of_mem ((sortInts_perm X).mem_iff.2 hx)
  rw [sortInts_rank X hnd j hj, getD_of_lt _ j hj]

/-- `hS`, `hE`, `hg` are what `gaps_sound_on` concludes; `hco`: starts and ends are ordered alike -/
theorem gaps_pairwise_on {α} (l : List α) (s e : α → Int) (P : Int → Int → Prop)
    (hS : (l.map s).Nodup) (hE : (l.map e).Nodup)
    (hco : ∀ x ∈ l, ∀ y ∈ l, s x < s y → e x < e y)
    (hg : ∀ i, i + 1 < l.length → P ((sortInts (l.map e)).getD i 0) ((sortInts (l.map s)).getD (i + 1) 0))
    (a b : α) (ha : a ∈ l) (hb : b ∈ l) (hab : s a < s b)
    (hsucc : ∀ c ∈ l, ¬ (s a < s c ∧ s c < s b)) : P (e a) (s b) := by
  have hmem : ∀ (f : α → Int) (x : α), x ∈ l → f x ∈ sortInts (l.map f) := fun f x hx =>
    (sortInts_perm _).mem_iff.2 (List.mem_map.2 ⟨x, hx, rfl⟩)
  -- `a` has the same rank among the ends as among the starts, so it sits at the same position `k` of both sorted lists
  have hrank : l.countP (fun p => decide (e p < e a)) = l.countP (fun p => decide (s p < s a)) :=
    List.countP_congr fun p hp => by
      simp only [decide_eq_true_eq]
      refine ⟨fun h => ?_, hco p hp a ha⟩
      by_contra hn
      rcases lt_or_eq_of_le (not_lt.1 hn) with h' | h'
      · have := hco a ha p hp h'; omega
      · rw [List.inj_on_of_nodup_map hS ha hp h'] at h; omega
  obtain ⟨k, hk, hka⟩ := List.getElem_of_mem (hmem s a ha)
  obtain ⟨k', hk', hka'⟩ := List.getElem_of_mem (hmem e a ha)
  obtain rfl : k = k' := by
    rw [← sortInts_rank _ hS k hk, ← sortInts_rank _ hE k' hk', hka, hka', List.countP_map, List.countP_map]
    exact hrank.symm
  -- and `b`, its successor by start, at position `k + 1` of the sorted starts
  obtain ⟨hk1, hkb⟩ := getElem_succ_of_sorted _ (sortInts_sorted_lt _ hS) k hk (s b) (hmem s b hb) (hka ▸ hab)
    fun z hz => by
      obtain ⟨c, hc, rfl⟩ := List.mem_map.1 ((sortInts_perm _).mem_iff.1 hz)
      exact hka ▸ hsucc c hc
  have := hg k (by rw [← List.length_map (f := s), ← (sortInts_perm _).length_eq]; exact hk1)
  rwa [getD_of_lt _ _ hk', getD_of_lt _ _ hk1, hka', hkb] at this

theorem gaps_pairwise (l : List (Int × Int)) (P : Int → Int → Prop)
    (hS : (l.map (·.1)).Nodup) (hE : (l.map (·.2)).Nodup)
    (hco : ∀ x ∈ l, ∀ y ∈ l, x.1 < y.1 → x.2 < y.2)
    (hg : ∀ i, i + 1 < l.length →
      P ((sortInts (l.map (·.2))).getD i 0) ((sortInts (l.map (·.1))).getD (i + 1) 0))
    (a b : Int × Int) (ha : a ∈ l) (hb : b ∈ l) (hab : a.1 < b.1)
    (hsucc : ∀ c ∈ l, ¬ (a.1 < c.1 ∧ c.1 < b.1)) : P a.2 b.1 :=
  gaps_pairwise_on l (·.1) (·.2) P hS hE hco hg a b ha hb hab hsucc

end PS
