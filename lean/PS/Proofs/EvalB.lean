/-
  PS.Proofs.EvalB — the computable evaluator `evalB` agrees with the classical semantics `eval`
  on every quantifier-free formula (`qf`: no `pulse`).  This is what turns the `decide +kernel`
  non-vacuity examples (`satB ρ A = true`) into `Sat ρ A`.
-/
import PS.Smt
namespace PS

mutual
def Term.qf : Term → Bool
  | .var _ => true
  | .num _ => true
  | .sum l => Term.qfList l
  | .add a b => a.qf && b.qf
  | .sub a b => a.qf && b.qf
  | .mul a b => a.qf && b.qf
  | .neg a => a.qf
  | .div a b => a.qf && b.qf
  | .mod a b => a.qf && b.qf
  | .ite c a b => c.qf && a.qf && b.qf
  | .app _ a => a.qf
  | .select _ i => i.qf
def Term.qfList : List Term → Bool
  | [] => true
  | t :: ts => t.qf && Term.qfList ts
def Fml.qf : Fml → Bool
  | .tt => true
  | .ff => true
  | .bvar _ => true
  | .not a => a.qf
  | .and l => Fml.qfList l
  | .or l => Fml.qfList l
  | .xor a b => a.qf && b.qf
  | .imp a b => a.qf && b.qf
  | .ite c a b => c.qf && a.qf && b.qf
  | .iff a b => a.qf && b.qf
  | .neb a b => a.qf && b.qf
  | .le a b => a.qf && b.qf
  | .lt a b => a.qf && b.qf
  | .ge a b => a.qf && b.qf
  | .gt a b => a.qf && b.qf
  | .eq a b => a.qf && b.qf
  | .ne a b => a.qf && b.qf
  | .atMost l _ => Fml.qfList l
  | .atLeast l _ => Fml.qfList l
  | .pbEq l _ => Fml.qfList l
  | .storeFix _ i v => i.qf && v.qf
  | .pulse _ _ _ _ => false
  | .reqSum a b => a.qf && b.qf
  | .reqZero a => a.qf
  | .tracked _ a => a.qf
def Fml.qfList : List Fml → Bool
  | [] => true
  | a :: as => a.qf && Fml.qfList as
end

/- `evalB` and `eval` have the same clauses, one in `Bool` and one in `Prop`: the uniform step of `PS.Proofs.Congr`, the
   sibling statements rewriting a formula from right to left, so that a fact about Booleans is left.  The three clauses
   of `evalB` written with `||` / `if` go by cases on the first Boolean. -/
open Classical in
mutual
theorem Term.evalB_eq (ρ : Env) : (t : Term) → t.qf = true → t.evalB ρ = t.eval ρ := by
  intro t h
  cases t <;> dsimp only [Term.qf, Term.evalB, Term.eval] at h ⊢ <;>
    simp_all only [Bool.and_eq_true, Term.evalB_eq ρ, Fml.evalB_iff ρ, Term.evalSumB_eq ρ]
theorem Term.evalSumB_eq (ρ : Env) : (l : List Term) → Term.qfList l = true → Term.evalSumB ρ l = Term.evalSum ρ l := by
  intro l h
  cases l <;> dsimp only [Term.qfList, Term.evalSumB, Term.evalSum] at h ⊢ <;>
    simp_all only [Bool.and_eq_true, Term.evalB_eq ρ, Term.evalSumB_eq ρ]
theorem Fml.evalB_iff (ρ : Env) : (a : Fml) → a.qf = true → (a.evalB ρ = true ↔ a.eval ρ) := by
  intro a h
  cases a <;> dsimp only [Fml.qf, Fml.evalB, Fml.eval] at h ⊢ <;>
    simp_all [← Fml.evalB_iff ρ, Term.evalB_eq ρ, Fml.evalAllB_iff ρ, Fml.evalAnyB_iff ρ, Fml.countB_eq ρ]
  case imp a b => cases a.evalB ρ <;> simp
  case ite c a b => cases c.evalB ρ <;> simp
  case tracked p a => cases ρ.p p <;> simp
theorem Fml.evalAllB_iff (ρ : Env) : (l : List Fml) → Fml.qfList l = true → (Fml.evalAllB ρ l = true ↔ Fml.evalAll ρ l) := by
  intro l h
  cases l <;> dsimp only [Fml.qfList, Fml.evalAllB, Fml.evalAll] at h ⊢ <;>
    simp_all only [Bool.and_eq_true, Fml.evalB_iff ρ, Fml.evalAllB_iff ρ]
theorem Fml.evalAnyB_iff (ρ : Env) : (l : List Fml) → Fml.qfList l = true → (Fml.evalAnyB ρ l = true ↔ Fml.evalAny ρ l) := by
  intro l h
  cases l <;> dsimp only [Fml.qfList, Fml.evalAnyB, Fml.evalAny] at h ⊢ <;>
    simp_all only [Bool.and_eq_true, Bool.or_eq_true, Bool.false_eq_true, Fml.evalB_iff ρ, Fml.evalAnyB_iff ρ]
theorem Fml.countB_eq (ρ : Env) : (l : List Fml) → Fml.qfList l = true → Fml.countB ρ l = Fml.count ρ l := by
  intro l h
  cases l <;> dsimp only [Fml.qfList, Fml.countB, Fml.count] at h ⊢ <;>
    simp_all only [Bool.and_eq_true, Fml.evalB_iff ρ, Fml.countB_eq ρ]
end

theorem satB_sound (ρ : Env) (A : List Fml) (hq : A.all Fml.qf = true) (h : satB ρ A = true) : Sat ρ A := by
  intro a ha
  simp only [satB, List.all_eq_true] at h hq
  exact (Fml.evalB_iff ρ a (hq a ha)).1 (h a ha)

/-- a single Boolean for `by decide +kernel` to evaluate, so that the list (for an example: the run of its construction
    script) is computed once -/
theorem Sat.of_evalB (ρ : Env) (A : List Fml) (h : A.all (fun a => a.qf && a.evalB ρ) = true) : Sat ρ A := by
  simp only [List.all_eq_true, Bool.and_eq_true] at h
  exact satB_sound ρ A (List.all_eq_true.2 fun a ha => (h a ha).1) (List.all_eq_true.2 fun a ha => (h a ha).2)

theorem Sat.of_satB_filter (ρ : Env) (A : List Fml) (h : satB ρ (A.filter Fml.qf) = true)
    (hr : Sat ρ (A.filter (fun a => !a.qf))) : Sat ρ A := by
  intro a ha
  cases hq : a.qf with
  | true =>
      exact satB_sound ρ _ (List.all_eq_true.2 fun x hx => (List.mem_filter.1 hx).2) h a (List.mem_filter.2 ⟨ha, hq⟩)
  | false => exact hr a (List.mem_filter.2 ⟨ha, by rw [hq]; rfl⟩)

end PS
