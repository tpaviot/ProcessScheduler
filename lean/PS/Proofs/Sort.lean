/-
  PS.Proofs.Sort — what `sort_no_duplicates` (util.py) forces: fresh variables, each equal to one of
  the inputs, strictly increasing, as many as the inputs  ⇒  they are the inputs in increasing
  order and the inputs are pairwise distinct.  The gap conditions between the sorted ends and the
  sorted starts (`gapPairs`) then speak of `sortInts` of the values.
-/
import Mathlib.Data.List.Sort
import Mathlib.Data.List.Perm.Subperm
import PS.Proofs.Sem
namespace PS

def leB (a b : Int) : Bool := decide (a ≤ b)

def sortInts (X : List Int) : List Int := X.mergeSort leB

theorem sortInts_sorted (X : List Int) : (sortInts X).Pairwise (· ≤ ·) := List.pairwise_mergeSort' (· ≤ ·) X

theorem sortInts_perm (X : List Int) : (sortInts X).Perm X := List.mergeSort_perm X leB

theorem eq_sortInts (A X : List Int) (hs : A.Pairwise (· ≤ ·)) (hp : A.Perm X) : A = sortInts X :=
  List.Perm.eq_of_pairwise (fun _ _ _ _ h1 h2 => le_antisymm h1 h2) hs (sortInts_sorted X) (hp.trans (sortInts_perm X).symm)

theorem sorted_unique (A X : List Int) (hinc : A.Pairwise (· < ·)) (hsub : ∀ v ∈ A, v ∈ X)
    (hlen : A.length = X.length) : A = sortInts X ∧ X.Nodup := by
  have hnd : A.Nodup := hinc.imp (fun h => ne_of_lt h)
  have hperm : A.Perm X := (List.subperm_of_subset hnd hsub).perm_of_length_le (le_of_eq hlen.symm)
  exact ⟨eq_sortInts A X (hinc.imp le_of_lt) hperm, hperm.nodup_iff.1 hnd⟩

/-! The encoder addresses its lists by `getD i default`. -/

theorem getD_of_lt (T : List Int) (i : Nat) (hi : i < T.length) : T.getD i 0 = T[i] := by
  simp [List.getD, hi]

theorem eval_getD (l : List Term) (i : Nat) (ρ : Env) :
    (l.getD i default).eval ρ = (l.map (fun t => t.eval ρ)).getD i 0 := by
  rw [List.getD_eq_getElem?_getD, List.getD_eq_getElem?_getD, List.getElem?_map]
  cases l[i]? <;> rfl

theorem pairwise_iff_adjacent {r : Int → Int → Prop} [Trans r r r] (T : List Int) :
    T.Pairwise r ↔ ∀ i, i + 1 < T.length → r (T.getD i 0) (T.getD (i + 1) 0) := by
  rw [← List.isChain_iff_pairwise, List.isChain_iff_getElem]
  exact forall₂_congr fun i hi => by rw [getD_of_lt T i (by omega), getD_of_lt T (i + 1) hi]

theorem sortNoDup_length (fresh : Nat → IVar) (xs : List Term) : (sortNoDup fresh xs).1.length = xs.length := by
  simp only [sortNoDup, List.length_map, List.length_range]

theorem sortNoDup_sound (fresh : Nat → IVar) (xs : List Term) (ρ : Env)
    (h : Sat ρ (sortNoDup fresh xs).2) :
    ((sortNoDup fresh xs).1.map (fun t => t.eval ρ)) = sortInts (xs.map (fun t => t.eval ρ)) ∧
    (xs.map (fun t => t.eval ρ)).Nodup := by
  simp only [sortNoDup, sem, eval_getD, List.map_map, Function.comp_def, List.mem_range] at h ⊢
  refine sorted_unique _ _ ((pairwise_iff_adjacent _).2 fun i hi => h.2 i ?_) ?_ (by simp)
  · rw [List.length_map, List.length_range] at hi; omega
  · simp only [List.mem_map, List.mem_range]
    rintro _ ⟨i, hi, rfl⟩
    obtain ⟨x, hx, hxe⟩ := h.1 i hi
    exact ⟨x, hx, hxe.symm⟩

/-- the gap conditions that TasksContiguous / ResourceNonDelay / ResourceTasksDistance /
    IndicatorResourceIdle attach to the sorted starts and ends -/
theorem gaps_sound (f1 f2 : Nat → IVar) (xs ys : List Term) (ρ : Env) (mk : Term × Term → Fml)
    (P : Int → Int → Prop) (hmk : ∀ e s, (mk (e, s)).eval ρ → P (e.eval ρ) (s.eval ρ))
    (hlen : xs.length = ys.length)
    (h : Sat ρ ((sortNoDup f1 xs).2 ++ (sortNoDup f2 ys).2 ++
               (gapPairs (sortNoDup f1 xs).1 (sortNoDup f2 ys).1).map mk)) :
    (xs.map (fun t => t.eval ρ)).Nodup ∧ (ys.map (fun t => t.eval ρ)).Nodup ∧
    ∀ i, i + 1 < xs.length →
      P ((sortInts (ys.map (fun t => t.eval ρ))).getD i 0) ((sortInts (xs.map (fun t => t.eval ρ))).getD (i + 1) 0) := by
  simp only [Sat.append, Sat_map, gapPairs, List.mem_map, List.mem_range, forall_exists_index, and_imp,
    forall_apply_eq_imp_iff₂, sortNoDup_length] at h
  obtain ⟨hS, hnd1⟩ := sortNoDup_sound f1 xs ρ h.1.1
  obtain ⟨hE, hnd2⟩ := sortNoDup_sound f2 ys ρ h.1.2
  refine ⟨hnd1, hnd2, fun i hi => ?_⟩
  have := hmk _ _ (h.2 i (Nat.lt_sub_of_add_lt hi))
  rwa [eval_getD, eval_getD, hS, hE] at this

/-- for a family `l` with start term `s` and end term `e` (tasks: `sVar` / `eVar`; busy intervals: `s` / `e`) -/
theorem gaps_sound_on {α} (l : List α) (s e : α → Term) (f1 f2 : Nat → IVar) (ρ : Env) (mk : Term × Term → Fml)
    (P : Int → Int → Prop) (hmk : ∀ x y, (mk (x, y)).eval ρ → P (x.eval ρ) (y.eval ρ))
    (h : Sat ρ ((sortNoDup f1 (l.map s)).2 ++ (sortNoDup f2 (l.map e)).2 ++
               (gapPairs (sortNoDup f1 (l.map s)).1 (sortNoDup f2 (l.map e)).1).map mk)) :
    (l.map (fun x => (s x).eval ρ)).Nodup ∧ (l.map (fun x => (e x).eval ρ)).Nodup ∧
    ∀ i, i + 1 < l.length →
      P ((sortInts (l.map (fun x => (e x).eval ρ))).getD i 0) ((sortInts (l.map (fun x => (s x).eval ρ))).getD (i + 1) 0) := by
  have := gaps_sound f1 f2 (l.map s) (l.map e) ρ mk P hmk (by simp) h
  simpa only [List.map_map, Function.comp_def, List.length_map] using this

end PS
