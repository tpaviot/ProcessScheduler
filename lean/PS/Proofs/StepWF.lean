/-
  PS.Proofs.StepWF — well-formedness invariants of the constructor model over whole scripts, each by induction over the
  elementary updates (`Upd`): task names are pairwise different, every logged requirement event is well formed and
  belongs to a declared task (`reachable_wf`); worker names are pairwise different (`reachable_wnodup`).
-/
import PS.Proofs.StepInv
namespace PS

structure WFInv (st : State) : Prop where
  nodup : (st.tasks.map (·.name)).Nodup
  events : ∀ ev ∈ st.reqLog, ev.WF
  req_tasks : ∀ ev ∈ st.reqLog, ∃ t ∈ st.tasks, t.name = ev.task

def WNodup (st : State) : Prop := (st.workers.map (·.name)).Nodup

theorem nodup_names_append {α} (f : α → String) (l : List α) (x : α) (h : (l.map f).Nodup)
    (hx : l.any (fun y => f y == f x) = false) : ((l ++ [x]).map f).Nodup := by
  rw [List.map_append, List.nodup_append]
  refine ⟨h, List.pairwise_singleton .., ?_⟩
  rintro a ha b hb rfl
  obtain ⟨y, hy, rfl⟩ := List.mem_map.1 ha
  have hb' : f y = f x := by simpa using hb
  exact Bool.eq_false_iff.1 hx (List.any_eq_true.2 ⟨y, hy, beq_iff_eq.2 hb'⟩)

theorem Upd.wf {st st' : State} (h : Upd st st') (w : WFInv st) : WFInv st' := by
  induction h with
  | refl => exact w
  | trans _ _ ih1 ih2 => exact ih2 (ih1 w)
  | problem => exact ⟨List.nodup_nil, List.forall_mem_nil _, List.forall_mem_nil _⟩
  | task st t hfresh =>
      exact ⟨nodup_names_append _ _ _ w.nodup hfresh, w.events, fun ev hev =>
        (w.req_tasks ev hev).imp fun _ h => ⟨List.mem_append_left _ h.1, h.2⟩⟩
  | require st ev k hwf ht =>
      exact ⟨w.nodup, List.forall_mem_append.2 ⟨w.events, List.forall_mem_singleton.2 hwf⟩,
        List.forall_mem_append.2 ⟨w.req_tasks, List.forall_mem_singleton.2 ht⟩⟩
  | _ => exact ⟨w.nodup, w.events, w.req_tasks⟩

theorem reachable_wf (st : State) (hr : Reachable st) : WFInv st :=
  hr.upd.wf ⟨List.nodup_nil, List.forall_mem_nil _, List.forall_mem_nil _⟩

theorem Upd.wnodup {st st' : State} (h : Upd st st') (w : WNodup st) : WNodup st' := by
  induction h with
  | refl => exact w
  | trans _ _ ih1 ih2 => exact ih2 (ih1 w)
  | problem => exact List.nodup_nil
  | worker st x hfresh => exact nodup_names_append _ _ _ w hfresh
  | _ => exact w

/-- the unit workers of cumulative workers included -/
theorem reachable_wnodup (st : State) (hr : Reachable st) : WNodup st :=
  hr.upd.wnodup List.nodup_nil

end PS
