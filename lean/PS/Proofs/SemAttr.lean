import Lean.Meta.Tactic.Simp.RegisterCommand

/-- `simp only [sem]` evaluates what the encoder emits: it turns `Sat ρ A` / `a.eval ρ`, for `A`, `a` built by the
    definitions of `PS.Model.Encode`, into a statement about the values ρ gives the variables.  The set holds the
    equations of `Fml.eval` / `Term.eval`, the abbreviations for variables and numerals, `Sat` over the list
    constructors, and one lemma per building block of the encoder (guards, counting, order and comparison relations),
    each tagged where the meaning it speaks of is defined. -/
register_simp_attr sem
