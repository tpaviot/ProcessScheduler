/-
  PS.Proofs.BusyDict — lists searched by key, and `worker._busy_intervals` as a Python dict built from a list of
  assignments.

  The registries (`findTask`, `findWorker`, …) and the busy dictionaries (`busyFlag`) are lists searched with `find?` for
  the first entry under a key; where no key is repeated, every entry is the one found under its key (`find?_key`).

  `State.busyOf st w` folds `dictSet` over the requirements of every logged event.  `busyOf_eq` flattens the nested fold
  once: the dictionary is `dictFrom []` of `st.busyWrites w`, the assignments `busy_intervals[task] = maybe` in the order
  they are made.  Everything else is a fact about `dictSet`, carried over a list of assignments by one induction.
-/
import PS.Model.Initialize
namespace PS

theorem find?_beq_some {α β} [BEq β] [LawfulBEq β] {f : α → β} {l : List α} {k : β} {a : α}
    (h : l.find? (fun x => f x == k) = some a) : a ∈ l ∧ f a = k :=
  ⟨List.mem_of_find?_eq_some h, eq_of_beq (List.find?_some (p := fun x => f x == k) h)⟩

theorem find?_key {α β} [BEq β] [LawfulBEq β] (f : α → β) (l : List α) (hnd : (l.map f).Nodup) (a : α) (ha : a ∈ l) :
    l.find? (fun x => f x == f a) = some a := by
  induction l with
  | nil => exact nomatch ha
  | cons x xs ih =>
      rw [List.map_cons, List.nodup_cons] at hnd
      rcases List.mem_cons.1 ha with rfl | h
      · rw [List.find?_cons, beq_self_eq_true]
      · rw [List.find?_cons, beq_false_of_ne fun (he : f x = f a) => hnd.1 (he ▸ List.mem_map_of_mem h)]
        exact ih hnd.2 h

theorem find?_filter_ne {α} (p q : α → Bool) (l : List α) (h : ∀ x, p x = true → q x = true) :
    (l.filter q).find? p = l.find? p := by
  rw [List.find?_filter]
  congr 1; funext x
  cases hp : p x
  · simp
  · simp [h x hp]

theorem mem_dictSet {β} (l : List (String × β)) (k : String) (v : β) (x : String × β) :
    x ∈ dictSet l k v → x ∈ l ∨ x = (k, v) := by
  unfold dictSet
  split
  · intro h
    obtain ⟨e, he, rfl⟩ := List.mem_map.1 h
    split
    · exact Or.inr rfl
    · exact Or.inl he
  · intro h
    rcases List.mem_append.1 h with h | h
    · exact Or.inl h
    · exact Or.inr (List.mem_singleton.1 h)

def HasKey {β} (l : List (String × β)) (k : String) : Prop := ∃ v, (k, v) ∈ l

theorem hasKey_iff {β} {l : List (String × β)} {k : String} : HasKey l k ↔ k ∈ l.map (·.1) := by
  simp only [HasKey, List.mem_map, Prod.exists, exists_and_right, exists_eq_right]

theorem any_key_iff {β} (l : List (String × β)) (k : String) : l.any (·.1 == k) = true ↔ k ∈ l.map (·.1) := by
  simp only [List.any_eq_true, beq_iff_eq, List.mem_map]

theorem dictSet_fst {β} (k : String) (v : β) (e : String × β) : (if e.1 == k then (k, v) else e).1 = e.1 := by
  split
  next h => exact (eq_of_beq h).symm
  next => rfl

theorem dictSet_keys_eq {β} (l : List (String × β)) (k : String) (v : β) :
    (dictSet l k v).map (·.1) = if l.any (·.1 == k) then l.map (·.1) else l.map (·.1) ++ [k] := by
  unfold dictSet
  split
  · rw [List.map_map]
    exact List.map_congr_left fun e _ => dictSet_fst k v e
  · rw [List.map_append]; rfl

theorem dictSet_keys {β} (l : List (String × β)) (k : String) (v : β) (k' : String) :
    HasKey (dictSet l k v) k' ↔ HasKey l k' ∨ k' = k := by
  rw [hasKey_iff, hasKey_iff, dictSet_keys_eq]
  split
  next h => exact ⟨.inl, fun h' => h'.elim id fun e => e ▸ (any_key_iff l k).1 h⟩
  next => rw [List.mem_append, List.mem_singleton]

theorem dictSet_keys_nodup {β} (l : List (String × β)) (k : String) (v : β)
    (h : (l.map (·.1)).Nodup) : ((dictSet l k v).map (·.1)).Nodup := by
  rw [dictSet_keys_eq]
  split
  next => exact h
  next hk =>
    exact List.nodup_append.2 ⟨h, by simp, fun a ha b hb => by
      rw [List.mem_singleton.1 hb]; rintro rfl; exact hk ((any_key_iff l a).2 ha)⟩

theorem dictSet_filter {β} (p : String → Bool) (l : List (String × β)) (k : String) (v : β) :
    (dictSet l k v).filter (fun e => p e.1) =
      if p k then dictSet (l.filter (fun e => p e.1)) k v else l.filter (fun e => p e.1) := by
  -- overwriting the value under `k` does not change which entries are kept
  have hrepl : (l.map fun e => if e.1 == k then (k, v) else e).filter (fun e => p e.1) =
      (l.filter (fun e => p e.1)).map fun e => if e.1 == k then (k, v) else e := by
    rw [List.filter_map]
    exact congrArg _ (List.filter_congr fun e _ => congrArg p (dictSet_fst k v e))
  unfold dictSet
  cases hpk : p k
  · rw [if_neg Bool.false_ne_true]
    split
    · -- no entry that is kept stands under `k`
      rw [hrepl]
      refine (List.map_congr_left fun e he => if_neg fun h => ?_).trans (List.map_id' _)
      exact Bool.false_ne_true (hpk.symm.trans (eq_of_beq h ▸ (List.mem_filter.1 he).2))
    · simp only [List.filter_append, List.filter_cons, hpk, Bool.false_eq_true, if_false, List.filter_nil, List.append_nil]
  · have hany : (l.filter (fun e => p e.1)).any (·.1 == k) = l.any (·.1 == k) := by
      rw [List.any_filter]
      refine List.any_congr rfl fun e => ?_
      cases h : e.1 == k
      · exact Bool.and_false _
      · rw [eq_of_beq h, hpk]; rfl
    rw [if_pos rfl, hany]
    split
    · exact hrepl
    · simp only [List.filter_append, List.filter_cons, hpk, if_true, List.filter_nil]

/-- a Python dict built by a sequence of assignments -/
def dictFrom {β} (acc : List (String × β)) (L : List (String × β)) : List (String × β) :=
  L.foldl (fun acc e => dictSet acc e.1 e.2) acc

theorem dictFrom_append {β} (acc L M : List (String × β)) : dictFrom acc (L ++ M) = dictFrom (dictFrom acc L) M :=
  List.foldl_append ..

theorem mem_dictFrom {β} {L acc : List (String × β)} {x : String × β} (h : x ∈ dictFrom acc L) : x ∈ acc ∨ x ∈ L := by
  induction L generalizing acc with
  | nil => exact Or.inl h
  | cons e L ih =>
      rcases ih (acc := dictSet acc e.1 e.2) h with h | h
      · rcases mem_dictSet _ _ _ _ h with h | rfl
        · exact Or.inl h
        · exact Or.inr (List.mem_cons_self ..)
      · exact Or.inr (List.mem_cons_of_mem _ h)

theorem dictFrom_keys {β} (L acc : List (String × β)) (k : String) :
    HasKey (dictFrom acc L) k ↔ HasKey acc k ∨ HasKey L k := by
  induction L generalizing acc with
  | nil => simp [dictFrom, HasKey]
  | cons e L ih =>
      show HasKey (dictFrom (dictSet acc e.1 e.2) L) k ↔ _
      rw [ih, dictSet_keys, or_assoc, hasKey_iff (l := e :: L), List.map_cons, List.mem_cons, ← hasKey_iff]

theorem dictFrom_keys_nodup {β} (L acc : List (String × β)) (h : (acc.map (·.1)).Nodup) :
    ((dictFrom acc L).map (·.1)).Nodup := by
  induction L generalizing acc with
  | nil => exact h
  | cons e L ih => exact ih _ (dictSet_keys_nodup acc e.1 e.2 h)

theorem dictFrom_filter {β} (p : String → Bool) (L acc : List (String × β)) :
    (dictFrom acc L).filter (fun e => p e.1) = dictFrom (acc.filter (fun e => p e.1)) (L.filter (fun e => p e.1)) := by
  induction L generalizing acc with
  | nil => rfl
  | cons e L ih =>
      show (dictFrom (dictSet acc e.1 e.2) L).filter _ = _
      rw [ih, dictSet_filter, List.filter_cons]
      split <;> rfl

/-- the assignments `worker._busy_intervals[task] = maybe` that the logged requirements make, in order -/
def State.busyWrites (st : State) (w : String) : List (String × Bool) :=
  st.reqLog.flatMap fun ev => (ev.reqs.filter (·.worker == w)).map fun r => (ev.task, r.maybe)

theorem mem_busyWrites {st : State} {w : String} {e : String × Bool} :
    e ∈ st.busyWrites w ↔ ∃ ev ∈ st.reqLog, ∃ r ∈ ev.reqs, r.worker = w ∧ ev.task = e.1 ∧ r.maybe = e.2 := by
  simp only [State.busyWrites, List.mem_flatMap, List.mem_map, List.mem_filter, beq_iff_eq]
  constructor
  · rintro ⟨ev, hev, r, ⟨hr, hw⟩, rfl⟩; exact ⟨ev, hev, r, hr, hw, rfl, rfl⟩
  · rintro ⟨ev, hev, r, hr, hw, h1, h2⟩; exact ⟨ev, hev, r, ⟨hr, hw⟩, Prod.ext h1 h2⟩

theorem busyOf_eq (st : State) (w : String) : st.busyOf w = dictFrom [] (st.busyWrites w) := by
  have inner : ∀ (tn : String) (rs : List Req) (acc : List (String × Bool)),
      rs.foldl (fun acc r => if r.worker == w then dictSet acc tn r.maybe else acc) acc =
        dictFrom acc ((rs.filter (·.worker == w)).map fun r => (tn, r.maybe)) := by
    intro tn rs
    induction rs with
    | nil => intro acc; rfl
    | cons r rs ih =>
        intro acc
        rw [List.foldl_cons, ih, List.filter_cons]
        split <;> rfl
  unfold State.busyOf State.busyWrites
  generalize ([] : List (String × Bool)) = acc
  induction st.reqLog generalizing acc with
  | nil => rfl
  | cons ev L ih => rw [List.foldl_cons, ih, inner, List.flatMap_cons, dictFrom_append]

theorem busyOf_mem (st : State) (w : String) (e : String × Bool) (he : e ∈ st.busyOf w) :
    ∃ ev ∈ st.reqLog, ∃ r ∈ ev.reqs, r.worker = w ∧ ev.task = e.1 ∧ r.maybe = e.2 := by
  rw [busyOf_eq] at he
  exact mem_busyWrites.1 ((mem_dictFrom he).resolve_left List.not_mem_nil)

theorem busyOf_keys (st : State) (w tn : String) :
    HasKey (st.busyOf w) tn ↔ ∃ r ∈ st.reqsOf tn, r.worker = w := by
  rw [busyOf_eq, dictFrom_keys]
  unfold HasKey State.reqsOf State.eventsOf
  simp only [List.not_mem_nil, exists_false, false_or, mem_busyWrites, List.mem_flatMap, List.mem_filter, beq_iff_eq]
  constructor
  · rintro ⟨_, ev, hev, r, hr, hw, ht, _⟩; exact ⟨r, ⟨ev, ⟨hev, ht⟩, hr⟩, hw⟩
  · rintro ⟨r, ⟨ev, ⟨hev, ht⟩, hr⟩, hw⟩; exact ⟨r.maybe, ev, hev, r, hr, hw, ht, rfl⟩

theorem busyOf_keys_nodup (st : State) (w : String) : ((st.busyOf w).map (·.1)).Nodup := by
  rw [busyOf_eq]; exact dictFrom_keys_nodup _ _ List.nodup_nil

theorem busyFlag_of_mem (st : State) (w tn : String) (dflt : Bool) (e : String × Bool)
    (he : e ∈ st.busyOf w) (hk : e.1 = tn) : st.busyFlag w tn dflt = e.2 := by
  rw [State.busyFlag, ← hk, find?_key Prod.fst _ (busyOf_keys_nodup st w) e he]

theorem busyFlag_mem (st : State) {tn : String} {r : Req} (hr : r ∈ st.reqsOf tn) {w : Worker}
    (hw : st.findWorker r.worker = some w) : (tn, st.busyFlag w.name tn r.maybe) ∈ st.busyOf w.name := by
  obtain ⟨m, hm⟩ := (busyOf_keys st w.name tn).2 ⟨r, hr, (find?_beq_some hw).2.symm⟩
  rwa [busyFlag_of_mem st w.name tn r.maybe _ hm rfl]

end PS
