/-
  PS.Proofs.Congr — evaluation only depends on the variables that occur: two interpretations that agree on the
  integer variables satisfying `P` (and on everything else) give every term / formula whose integer variables all
  satisfy `P` the same value.
-/
import PS.Smt
namespace PS

mutual
/-- every integer variable of the term satisfies `P` -/
def Term.varsIn (P : IVar → Bool) : Term → Bool
  | .var v => P v
  | .num _ => true
  | .sum l => Term.varsInList P l
  | .add a b => a.varsIn P && b.varsIn P
  | .sub a b => a.varsIn P && b.varsIn P
  | .mul a b => a.varsIn P && b.varsIn P
  | .div a b => a.varsIn P && b.varsIn P
  | .mod a b => a.varsIn P && b.varsIn P
  | .neg a => a.varsIn P
  | .ite c a b => c.varsIn P && a.varsIn P && b.varsIn P
  | .app _ a => a.varsIn P
  | .select _ i => i.varsIn P
def Term.varsInList (P : IVar → Bool) : List Term → Bool
  | [] => true
  | t :: ts => t.varsIn P && Term.varsInList P ts
def Fml.varsIn (P : IVar → Bool) : Fml → Bool
  | .tt => true
  | .ff => true
  | .bvar _ => true
  | .not a => a.varsIn P
  | .and l => Fml.varsInList P l
  | .or l => Fml.varsInList P l
  | .xor a b => a.varsIn P && b.varsIn P
  | .imp a b => a.varsIn P && b.varsIn P
  | .iff a b => a.varsIn P && b.varsIn P
  | .neb a b => a.varsIn P && b.varsIn P
  | .ite c a b => c.varsIn P && a.varsIn P && b.varsIn P
  | .le a b => a.varsIn P && b.varsIn P
  | .lt a b => a.varsIn P && b.varsIn P
  | .ge a b => a.varsIn P && b.varsIn P
  | .gt a b => a.varsIn P && b.varsIn P
  | .eq a b => a.varsIn P && b.varsIn P
  | .ne a b => a.varsIn P && b.varsIn P
  | .atMost l _ => Fml.varsInList P l
  | .atLeast l _ => Fml.varsInList P l
  | .pbEq l _ => Fml.varsInList P l
  | .storeFix _ i v => i.varsIn P && v.varsIn P
  | .pulse _ _ p _ => p.varsIn P
  | .reqSum a b => a.varsIn P && b.varsIn P
  | .reqZero a => a.varsIn P
  | .tracked _ a => a.varsIn P
def Fml.varsInList (P : IVar → Bool) : List Fml → Bool
  | [] => true
  | a :: as => a.varsIn P && Fml.varsInList P as
end

structure Env.AgreeOn (P : IVar → Bool) (ρ ρ' : Env) : Prop where
  i : ∀ v, P v = true → ρ.i v = ρ'.i v
  b : ρ.b = ρ'.b
  f : ρ.f = ρ'.f
  a : ρ.a = ρ'.a
  p : ρ.p = ρ'.p

/- Each clause of `eval` computes a value from the values of the parts.  So every statement below is: split on the
   constructor, unfold `varsIn` and `eval` one step, rewrite with the sibling statements as conditional rewrite rules (their
   side conditions are the conjuncts of the unfolded hypothesis) and, at a leaf, with `hag`.
   `open Classical`: the instance `simp` needs to rewrite the condition of an `if`. -/
open Classical in
mutual
theorem Term.eval_congr (P : IVar → Bool) (ρ ρ' : Env) (hag : Env.AgreeOn P ρ ρ') :
    (t : Term) → t.varsIn P = true → t.eval ρ = t.eval ρ' := by
  intro t h
  cases t <;> dsimp only [Term.varsIn, Term.eval] at h ⊢ <;>
    simp_all only [Bool.and_eq_true, hag.i, hag.f, hag.a, Term.eval_congr P ρ ρ' hag, Fml.eval_congr P ρ ρ' hag,
      Term.evalSum_congr P ρ ρ' hag]
theorem Term.evalSum_congr (P : IVar → Bool) (ρ ρ' : Env) (hag : Env.AgreeOn P ρ ρ') :
    (l : List Term) → Term.varsInList P l = true → Term.evalSum ρ l = Term.evalSum ρ' l := by
  intro l h
  cases l <;> dsimp only [Term.varsInList, Term.evalSum] at h ⊢ <;>
    simp_all only [Bool.and_eq_true, Term.eval_congr P ρ ρ' hag, Term.evalSum_congr P ρ ρ' hag]
theorem Fml.eval_congr (P : IVar → Bool) (ρ ρ' : Env) (hag : Env.AgreeOn P ρ ρ') :
    (a : Fml) → a.varsIn P = true → (a.eval ρ ↔ a.eval ρ') := by
  intro a h
  cases a <;> dsimp only [Fml.varsIn, Fml.eval] at h ⊢ <;>
    simp_all only [Bool.and_eq_true, hag.b, hag.f, hag.a, hag.p, Term.eval_congr P ρ ρ' hag,
      Fml.eval_congr P ρ ρ' hag, Fml.evalAll_congr P ρ ρ' hag, Fml.evalAny_congr P ρ ρ' hag,
      Fml.count_congr P ρ ρ' hag]
theorem Fml.evalAll_congr (P : IVar → Bool) (ρ ρ' : Env) (hag : Env.AgreeOn P ρ ρ') :
    (l : List Fml) → Fml.varsInList P l = true → (Fml.evalAll ρ l ↔ Fml.evalAll ρ' l) := by
  intro l h
  cases l <;> dsimp only [Fml.varsInList, Fml.evalAll] at h ⊢ <;>
    simp_all only [Bool.and_eq_true, Fml.eval_congr P ρ ρ' hag, Fml.evalAll_congr P ρ ρ' hag]
theorem Fml.evalAny_congr (P : IVar → Bool) (ρ ρ' : Env) (hag : Env.AgreeOn P ρ ρ') :
    (l : List Fml) → Fml.varsInList P l = true → (Fml.evalAny ρ l ↔ Fml.evalAny ρ' l) := by
  intro l h
  cases l <;> dsimp only [Fml.varsInList, Fml.evalAny] at h ⊢ <;>
    simp_all only [Bool.and_eq_true, Fml.eval_congr P ρ ρ' hag, Fml.evalAny_congr P ρ ρ' hag]
theorem Fml.count_congr (P : IVar → Bool) (ρ ρ' : Env) (hag : Env.AgreeOn P ρ ρ') :
    (l : List Fml) → Fml.varsInList P l = true → Fml.count ρ l = Fml.count ρ' l := by
  intro l h
  cases l <;> dsimp only [Fml.varsInList, Fml.count] at h ⊢ <;>
    simp_all only [Bool.and_eq_true, Fml.eval_congr P ρ ρ' hag, Fml.count_congr P ρ ρ' hag]
end

theorem eval_congr_term (P : IVar → Bool) (ρ ρ' : Env) (hag : Env.AgreeOn P ρ ρ') (t : Term) (h : t.varsIn P = true) :
    t.eval ρ = t.eval ρ' := Term.eval_congr P ρ ρ' hag t h
theorem eval_congr_fml (P : IVar → Bool) (ρ ρ' : Env) (hag : Env.AgreeOn P ρ ρ') (a : Fml) (h : a.varsIn P = true) :
    (a.eval ρ ↔ a.eval ρ') := Fml.eval_congr P ρ ρ' hag a h

theorem Env.AgreeOn.update_i {P : IVar → Bool} (ρ : Env) (i' : IVar → Int) (h : ∀ v, P v = true → ρ.i v = i' v) :
    Env.AgreeOn P ρ { ρ with i := i' } := ⟨h, rfl, rfl, rfl, rfl⟩

/-- the side condition has the form of the executable tests of `PS.Spec.Fragment` / `FragmentG` -/
theorem Sat.congr {P : IVar → Bool} {ρ ρ' : Env} (hag : Env.AgreeOn P ρ ρ') {A : List Fml}
    (hA : A.all (fun a => a.varsIn P) = true) : Sat ρ A ↔ Sat ρ' A :=
  forall₂_congr fun a ha => Fml.eval_congr P ρ ρ' hag a (List.all_eq_true.1 hA a ha)

end PS
