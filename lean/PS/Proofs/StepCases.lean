/-
  PS.Proofs.StepCases — the case analyses the step functions share.  A constructor tests one thing after the other
  (`Res.ite_ind`) and goes on after a call to another constructor only if that one succeeded (`Res.seq_ind`); every
  objective constructor ends in one of four ways (`stepObjective_ind`), every constraint constructor in one of two
  (`stepConstr_ind`); `SchedulingProblem` tests its horizon and nothing else (`stepProblem_accepted`).
-/
import PS.Model.Step
namespace PS

theorem Res.ite_ind {P : Res → Prop} {c : Prop} [Decidable c] {a b : Res} (ha : P a) (hb : ¬ c → P b) :
    P (if c then a else b) := by
  by_cases h : c
  · rw [if_pos h]; exact ha
  · rw [if_neg h]; exact hb h

/-- the `match` by which `addUnits`, `stepCumulative`, `stepRequire`, `indThenObj` and `indThenFail` run a second
    constructor on the state the first one left, or stop with its error -/
theorem Res.seq_ind {P : Res → Prop} {r : Res} {k : State → Res} : P r → (r.2 = none → P (k r.1)) →
    P (match r with | (st', none) => k st' | r => r) := by
  intro hr hk
  split
  · exact hk rfl
  · exact hr

theorem stepObjective_ind {st : State} {P : Res → Prop} (hfail : ∀ e, P (fail st e))
    (hobj : ∀ n t b w m, P (st.addObjective n t b w m))
    (hio : ∀ c k i b bd o m, P (st.indThenObj c k i b bd o m))
    (hif : ∀ c k i b bd e, P (st.indThenFail c k i b bd e)) (d : ODecl) : P (stepObjective st d) := by
  unfold stepObjective
  repeat' split
  all_goals first | apply hfail | apply hobj | apply hio | apply hif

theorem State.markOperands_nil (st : State) : st.markOperands [] = st := by
  simp [State.markOperands]

/-- a constraint constructor fails before it has registered anything, or — a problem exists — it registers a constraint
    under the next id and marks the constraints this one refers to; no error is left only if every explicit `raise` of
    the constructor was passed (`resolve` returns a body) -/
theorem stepConstr_ind {st : State} {P : Res → Prop} (name : Option String) (opt : Bool) (d : CDecl)
    (hfail : ∀ e, P (fail st e))
    (hreg : st.active = true → ∀ (c : Constr) (e : Option Err), c.id = st.constrs.length →
      (e = none → ∃ b marks, st.resolve d = .body b marks) →
      P ({ st with constrs := st.constrs ++ [c] }.markOperands c.refs, e)) :
    P (stepConstr st name opt d) := by
  have reg : ¬ (!st.active) = true → _ := fun h => hreg (by simpa using h)
  unfold stepConstr
  split
  · exact hfail _
  · exact Res.ite_ind (hfail _) fun ha => Res.ite_ind (hfail _) fun _ => reg ha _ _ rfl nofun
  · refine Res.ite_ind (hfail _) fun ha => Res.ite_ind (hfail _) fun _ => ?_
    -- this branch (`ResourceInterrupted` on a resource without tasks) records no reference and marks nothing
    have plain : ∀ (c : Constr) (e : Err), c.id = st.constrs.length → c.refs = [] →
        P (fail { st with constrs := st.constrs ++ [c] } e) := fun c e hid hr => by
      have := reg ha c (some e) hid nofun
      rwa [hr, State.markOperands_nil] at this
    dsimp only
    split <;> exact plain _ _ rfl rfl
  · refine Res.ite_ind (hfail _) fun ha => Res.ite_ind (hfail _) fun _ => ?_
    dsimp only
    split
    · exact reg ha _ _ rfl fun _ => ⟨_, _, ‹_›⟩
    · exact reg ha _ _ rfl nofun

theorem stepProblem_of_pos {n : String} {h : Option Int} (hpos : ∀ H, h = some H → 0 < H) (st : State) :
    stepProblem st n h = ok { active := true, pname := n, horizon := h } := by
  cases h with
  | none => rfl
  | some H => exact if_pos (hpos H rfl)

theorem stepProblem_accepted {st : State} {n : String} {h : Option Int} :
    (stepProblem st n h).2 = none ↔ ∀ H, h = some H → 0 < H := by
  refine ⟨fun ha H e => ?_, fun hpos => by rw [stepProblem_of_pos hpos]; rfl⟩
  subst e
  refine Decidable.by_contra fun hn => ?_
  rw [stepProblem, if_neg hn] at ha
  exact nomatch ha

end PS
