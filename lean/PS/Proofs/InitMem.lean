/-
  PS.Proofs.InitMem — the assertion list of `initialize`, part by part: membership (`mem_initFmls_iff`), satisfaction
  (`Sat_initFmls_iff`) and its projections `Sat.init_*` (two of them go through a lemma about their part and stand next
  to it: `Sat.init_parked` in C01, `Sat.init_raw` in C10).  At the end, when the objective part is empty and what it
  says when it is not.
-/
import PS.Model.Initialize
import PS.Proofs.Sem
namespace PS

/-- the driver prints `initializeO`, the theorems speak of `initFmls` -/
theorem initializeO_fmls (cfg : Config) (st : State) :
    (initializeO cfg st).map (·.2) = initFmls cfg st := by
  simp [initializeO, initFmls, List.map_flatMap, Function.comp_def, State.taskAsserts]

theorem mem_initFmls_iff (cfg : Config) (st : State) (a : Fml) :
    a ∈ initFmls cfg st ↔
      (∃ t ∈ st.tasks, a ∈ st.taskAsserts t ∨ a = t.horizonFml) ∨
      (∃ w ∈ st.workers, a ∈ noOverlapPairs w.name (st.busyOf w.name)) ∨
      (∃ c ∈ st.constrs, c.operand = false ∧ a ∈ c.asserts) ∨
      (∃ i ∈ st.indicators, a ∈ i.asserts) ∨
      (∃ t ∈ st.tasks, a ∈ workAmount st t) ∨
      (∃ b ∈ st.buffers, a ∈ bufferFmls st b) ∨
      a ∈ st.problemAsserts ∨
      a ∈ objectiveFmls cfg st := by
  simp only [initFmls, List.mem_append, List.mem_flatMap, List.mem_filter, List.mem_singleton,
    Bool.not_eq_eq_eq_not, Bool.not_true, or_assoc, and_assoc]

theorem Sat_initFmls_iff (cfg : Config) (st : State) (ρ : Env) :
    Sat ρ (initFmls cfg st) ↔
      (∀ t ∈ st.tasks, Sat ρ (st.taskAsserts t) ∧ t.horizonFml.eval ρ) ∧
      (∀ w ∈ st.workers, Sat ρ (noOverlapPairs w.name (st.busyOf w.name))) ∧
      (∀ c ∈ st.constrs, c.operand = false → Sat ρ c.asserts) ∧
      (∀ i ∈ st.indicators, Sat ρ i.asserts) ∧
      (∀ t ∈ st.tasks, Sat ρ (workAmount st t)) ∧
      (∀ b ∈ st.buffers, Sat ρ (bufferFmls st b)) ∧
      Sat ρ st.problemAsserts ∧ Sat ρ (objectiveFmls cfg st) := by
  simp only [initFmls, sem, List.mem_filter, and_imp, and_assoc, Bool.not_eq_eq_eq_not, Bool.not_true]

theorem State.mem_eventsOf {st : State} {n : String} {ev : ReqEvent} :
    ev ∈ st.eventsOf n ↔ ev ∈ st.reqLog ∧ ev.task = n := by
  rw [State.eventsOf, List.mem_filter, beq_iff_eq]

theorem State.mem_reqsOf {st : State} {n : String} {r : Req} : r ∈ st.reqsOf n ↔ ∃ ev ∈ st.eventsOf n, r ∈ ev.reqs :=
  List.mem_flatMap

theorem State.taskAsserts_sat (st : State) (t : Task) (ρ : Env) :
    Sat ρ (st.taskAsserts t) ↔ Sat ρ t.setAssertions ∧ ∀ ev ∈ st.eventsOf t.name, Sat ρ (ev.fmls t) := by
  rw [State.taskAsserts, Task.initAsserts, Sat.append, Sat_flatMap]

@[sem] theorem Task.horizonFml_eval (t : Task) (ρ : Env) : t.horizonFml.eval ρ ↔ t.endV ρ ≤ ρ.i .horizon := Iff.rfl

section
variable {cfg : Config} {st : State} {ρ : Env} (hρ : Sat ρ (initFmls cfg st))
include hρ

theorem Sat.init_task {t : Task} (ht : t ∈ st.tasks) :
    Sat ρ t.setAssertions ∧ (∀ ev ∈ st.eventsOf t.name, Sat ρ (ev.fmls t)) ∧ t.endV ρ ≤ ρ.i .horizon :=
  have h := ((Sat_initFmls_iff cfg st ρ).1 hρ).1 t ht
  ⟨((st.taskAsserts_sat t ρ).1 h.1).1, ((st.taskAsserts_sat t ρ).1 h.1).2, h.2⟩
theorem Sat.init_setAssertions {t : Task} (ht : t ∈ st.tasks) : Sat ρ t.setAssertions := (hρ.init_task ht).1
theorem Sat.init_req {t : Task} (ht : t ∈ st.tasks) {ev : ReqEvent} (hev : ev ∈ st.eventsOf t.name) :
    Sat ρ (ev.fmls t) := (hρ.init_task ht).2.1 ev hev
theorem Sat.init_horizon {t : Task} (ht : t ∈ st.tasks) : t.endV ρ ≤ ρ.i .horizon := (hρ.init_task ht).2.2
theorem Sat.init_worker {w : Worker} (hw : w ∈ st.workers) : Sat ρ (noOverlapPairs w.name (st.busyOf w.name)) :=
  ((Sat_initFmls_iff cfg st ρ).1 hρ).2.1 w hw
theorem Sat.init_constr {c : Constr} (hc : c ∈ st.constrs) (hop : c.operand = false) : Sat ρ c.asserts :=
  ((Sat_initFmls_iff cfg st ρ).1 hρ).2.2.1 c hc hop
theorem Sat.init_indicator {i : Indicator} (hi : i ∈ st.indicators) : Sat ρ i.asserts :=
  ((Sat_initFmls_iff cfg st ρ).1 hρ).2.2.2.1 i hi
theorem Sat.init_work {t : Task} (ht : t ∈ st.tasks) : Sat ρ (workAmount st t) :=
  ((Sat_initFmls_iff cfg st ρ).1 hρ).2.2.2.2.1 t ht
theorem Sat.init_buffer {b : Buffer} (hb : b ∈ st.buffers) : Sat ρ (bufferFmls st b) :=
  ((Sat_initFmls_iff cfg st ρ).1 hρ).2.2.2.2.2.1 b hb
theorem Sat.init_problem : Sat ρ st.problemAsserts :=
  ((Sat_initFmls_iff cfg st ρ).1 hρ).2.2.2.2.2.2.1
theorem Sat.init_objective : Sat ρ (objectiveFmls cfg st) :=
  ((Sat_initFmls_iff cfg st ρ).1 hρ).2.2.2.2.2.2.2
end

/-! The objective part is built only for several objectives under the incremental optimiser or the `weight` priority. -/

theorem objectiveFmls_of_le_one (cfg : Config) (st : State) (h : st.objectives.length ≤ 1) :
    objectiveFmls cfg st = [] := by
  have : ¬ (st.objectives.length > 1) := by omega
  simp [objectiveFmls, this]

theorem objectiveFmls_of_pareto (cfg : Config) (st : State)
    (h : (!cfg.optimize || cfg.priority == "weight") = false) : objectiveFmls cfg st = [] := by
  simp [objectiveFmls, h]

noncomputable def weightedSum (os : List Objective) (ρ : Env) : Int :=
  (os.map (fun o => o.weight * o.target.eval ρ)).sum

theorem evalSum_weighted (ρ : Env) (os : List Objective) :
    Term.evalSum ρ (os.map (fun o => Term.mul (numT o.weight) o.target)) = weightedSum os ρ := by
  rw [Term.evalSum_eq_sum, List.map_map]; rfl

/-- what `build_equivalent_weighted_objective` (solver.py, called by `create_objective`) asserts -/
theorem objectiveFmls_sat (cfg : Config) (st : State) (ρ : Env)
    (h : (decide (st.objectives.length > 1) && (!cfg.optimize || cfg.priority == "weight")) = true) :
    Sat ρ (objectiveFmls cfg st) ↔
      ρ.i (.named "EquivalentSingleObjective") = weightedSum st.objectives ρ ∧
      ρ.i (.ind "EquivalentIndicator") = ρ.i (.named "EquivalentSingleObjective") := by
  rw [objectiveFmls, if_pos h]
  simp only [Sat.cons, Sat.nil, and_true, Fml.eval, Term.eval, evalSum_weighted]

end PS
