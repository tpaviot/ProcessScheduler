/-
  PS.Proofs.Congr2 — a term / formula whose integer variables satisfy `P`, whose Boolean variables satisfy `Q` and which
  uses no uninterpreted function, array or tracking literal (`plainIn P Q`) has the same value under two interpretations
  that agree on those integer and Boolean variables, whatever they say about everything else.  (`PS.Proofs.Congr` asks
  the interpretations to agree on all Booleans, functions and arrays.)
-/
import PS.Smt
namespace PS

mutual
/-- integer variables in `P`, Boolean variables in `Q`, no uninterpreted symbol -/
def Term.plainIn (P : IVar → Bool) (Q : BVar → Bool) : Term → Bool
  | .var v => P v
  | .num _ => true
  | .sum l => Term.plainInList P Q l
  | .add a b => a.plainIn P Q && b.plainIn P Q
  | .sub a b => a.plainIn P Q && b.plainIn P Q
  | .mul a b => a.plainIn P Q && b.plainIn P Q
  | .div a b => a.plainIn P Q && b.plainIn P Q
  | .mod a b => a.plainIn P Q && b.plainIn P Q
  | .neg a => a.plainIn P Q
  | .ite c a b => c.plainIn P Q && a.plainIn P Q && b.plainIn P Q
  | .app _ _ => false
  | .select _ _ => false
def Term.plainInList (P : IVar → Bool) (Q : BVar → Bool) : List Term → Bool
  | [] => true
  | t :: ts => t.plainIn P Q && Term.plainInList P Q ts
def Fml.plainIn (P : IVar → Bool) (Q : BVar → Bool) : Fml → Bool
  | .tt => true
  | .ff => true
  | .bvar v => Q v
  | .not a => a.plainIn P Q
  | .and l => Fml.plainInList P Q l
  | .or l => Fml.plainInList P Q l
  | .xor a b => a.plainIn P Q && b.plainIn P Q
  | .imp a b => a.plainIn P Q && b.plainIn P Q
  | .iff a b => a.plainIn P Q && b.plainIn P Q
  | .neb a b => a.plainIn P Q && b.plainIn P Q
  | .ite c a b => c.plainIn P Q && a.plainIn P Q && b.plainIn P Q
  | .le a b => a.plainIn P Q && b.plainIn P Q
  | .lt a b => a.plainIn P Q && b.plainIn P Q
  | .ge a b => a.plainIn P Q && b.plainIn P Q
  | .gt a b => a.plainIn P Q && b.plainIn P Q
  | .eq a b => a.plainIn P Q && b.plainIn P Q
  | .ne a b => a.plainIn P Q && b.plainIn P Q
  | .atMost l _ => Fml.plainInList P Q l
  | .atLeast l _ => Fml.plainInList P Q l
  | .pbEq l _ => Fml.plainInList P Q l
  | .storeFix _ _ _ => false
  | .pulse _ _ _ _ => false
  | .reqSum a b => a.plainIn P Q && b.plainIn P Q
  | .reqZero a => a.plainIn P Q
  | .tracked _ _ => false
def Fml.plainInList (P : IVar → Bool) (Q : BVar → Bool) : List Fml → Bool
  | [] => true
  | a :: as => a.plainIn P Q && Fml.plainInList P Q as
end

structure Env.AgreeOn2 (P : IVar → Bool) (Q : BVar → Bool) (ρ ρ' : Env) : Prop where
  i : ∀ v, P v = true → ρ.i v = ρ'.i v
  b : ∀ v, Q v = true → ρ.b v = ρ'.b v

theorem Env.AgreeOn2.symm {P Q} {ρ ρ' : Env} (h : Env.AgreeOn2 P Q ρ ρ') : Env.AgreeOn2 P Q ρ' ρ :=
  ⟨fun v hv => (h.i v hv).symm, fun v hv => (h.b v hv).symm⟩

/- The uniform step of `PS.Proofs.Congr`; a constructor that `plainIn` excludes goes by `h : false = true`. -/
open Classical in
mutual
theorem eval_congr2_term (P : IVar → Bool) (Q : BVar → Bool) (ρ ρ' : Env) (hag : Env.AgreeOn2 P Q ρ ρ') (t : Term) (h : t.plainIn P Q = true) :
    t.eval ρ = t.eval ρ' := by
  cases t <;> dsimp only [Term.plainIn, Term.eval] at h ⊢ <;>
    simp_all only [Bool.and_eq_true, Bool.false_eq_true, hag.i, eval_congr2_term P Q ρ ρ' hag,
      eval_congr2_fml P Q ρ ρ' hag, Term.evalSum_congr2 P Q ρ ρ' hag]
theorem Term.evalSum_congr2 (P : IVar → Bool) (Q : BVar → Bool) (ρ ρ' : Env) (hag : Env.AgreeOn2 P Q ρ ρ') :
    (l : List Term) → Term.plainInList P Q l = true → Term.evalSum ρ l = Term.evalSum ρ' l := by
  intro l h
  cases l <;> dsimp only [Term.plainInList, Term.evalSum] at h ⊢ <;>
    simp_all only [Bool.and_eq_true, eval_congr2_term P Q ρ ρ' hag, Term.evalSum_congr2 P Q ρ ρ' hag]
theorem eval_congr2_fml (P : IVar → Bool) (Q : BVar → Bool) (ρ ρ' : Env) (hag : Env.AgreeOn2 P Q ρ ρ') (a : Fml) (h : a.plainIn P Q = true) :
    (a.eval ρ ↔ a.eval ρ') := by
  cases a <;> dsimp only [Fml.plainIn, Fml.eval] at h ⊢ <;>
    simp_all only [Bool.and_eq_true, Bool.false_eq_true, hag.b, eval_congr2_term P Q ρ ρ' hag,
      eval_congr2_fml P Q ρ ρ' hag, Fml.evalAll_congr2 P Q ρ ρ' hag, Fml.evalAny_congr2 P Q ρ ρ' hag,
      Fml.count_congr2 P Q ρ ρ' hag]
theorem Fml.evalAll_congr2 (P : IVar → Bool) (Q : BVar → Bool) (ρ ρ' : Env) (hag : Env.AgreeOn2 P Q ρ ρ') :
    (l : List Fml) → Fml.plainInList P Q l = true → (Fml.evalAll ρ l ↔ Fml.evalAll ρ' l) := by
  intro l h
  cases l <;> dsimp only [Fml.plainInList, Fml.evalAll] at h ⊢ <;>
    simp_all only [Bool.and_eq_true, eval_congr2_fml P Q ρ ρ' hag, Fml.evalAll_congr2 P Q ρ ρ' hag]
theorem Fml.evalAny_congr2 (P : IVar → Bool) (Q : BVar → Bool) (ρ ρ' : Env) (hag : Env.AgreeOn2 P Q ρ ρ') :
    (l : List Fml) → Fml.plainInList P Q l = true → (Fml.evalAny ρ l ↔ Fml.evalAny ρ' l) := by
  intro l h
  cases l <;> dsimp only [Fml.plainInList, Fml.evalAny] at h ⊢ <;>
    simp_all only [Bool.and_eq_true, eval_congr2_fml P Q ρ ρ' hag, Fml.evalAny_congr2 P Q ρ ρ' hag]
theorem Fml.count_congr2 (P : IVar → Bool) (Q : BVar → Bool) (ρ ρ' : Env) (hag : Env.AgreeOn2 P Q ρ ρ') :
    (l : List Fml) → Fml.plainInList P Q l = true → Fml.count ρ l = Fml.count ρ' l := by
  intro l h
  cases l <;> dsimp only [Fml.plainInList, Fml.count] at h ⊢ <;>
    simp_all only [Bool.and_eq_true, eval_congr2_fml P Q ρ ρ' hag, Fml.count_congr2 P Q ρ ρ' hag]
end

theorem Sat.congr2 {P : IVar → Bool} {Q : BVar → Bool} {ρ ρ' : Env} (hag : Env.AgreeOn2 P Q ρ ρ') {A : List Fml}
    (hA : A.all (fun a => a.plainIn P Q) = true) : Sat ρ A ↔ Sat ρ' A :=
  forall₂_congr fun a ha => eval_congr2_fml P Q ρ ρ' hag a (List.all_eq_true.1 hA a ha)

end PS
