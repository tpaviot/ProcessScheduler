/-
  PS.Proofs.Buffer — arithmetic behind the buffer encoding (solver.py:263-385, util.py:79-126): a level sequence driven
  by sorted change times is, after every change time, the initial level plus the quantities of all the accesses at
  instants ≤ that time (`levels_closed_form`); the bubble network of `sort_duplicates` sorts (`passes_sorted`), so under
  the constraints of `sortDup` its outputs are the inputs' values, sorted (`sortDup_sound`).
-/
import PS.Proofs.Sort
import PS.Model.Initialize
namespace PS

/-- sum of the quantities of the accesses at instants `≤ τ` -/
def sumUpTo (ev : List (Int × Int)) (τ : Int) : Int := ((ev.filter (fun e => decide (e.1 ≤ τ))).map (·.2)).sum

/-- sum of the quantities of the accesses at instant `τ` exactly -/
def sumAt (ev : List (Int × Int)) (τ : Int) : Int := ((ev.filter (fun e => decide (e.1 = τ))).map (·.2)).sum

theorem sumUpTo_cons (e : Int × Int) (ev : List (Int × Int)) (τ : Int) :
    sumUpTo (e :: ev) τ = (if e.1 ≤ τ then e.2 else 0) + sumUpTo ev τ := by
  unfold sumUpTo
  by_cases h : e.1 ≤ τ <;> simp [h]

theorem sumAt_cons (e : Int × Int) (ev : List (Int × Int)) (τ : Int) :
    sumAt (e :: ev) τ = (if e.1 = τ then e.2 else 0) + sumAt ev τ := by
  unfold sumAt
  by_cases h : e.1 = τ <;> simp [h]

theorem sumUpTo_map {α} (g q : α → Int) (l : List α) (τ : Int) :
    sumUpTo (l.map fun x => (g x, q x)) τ = (l.map fun x => if g x ≤ τ then q x else 0).sum := by
  induction l with
  | nil => rfl
  | cons x l ih => rw [List.map_cons, sumUpTo_cons, ih, List.map_cons, List.sum_cons]

theorem sumAt_map {α} (g q : α → Int) (l : List α) (τ : Int) :
    sumAt (l.map fun x => (g x, q x)) τ = (l.map fun x => if g x = τ then q x else 0).sum := by
  induction l with
  | nil => rfl
  | cons x l ih => rw [List.map_cons, sumAt_cons, ih, List.map_cons, List.sum_cons]

theorem sumUpTo_step (ev : List (Int × Int)) (a b : Int) (hab : a < b)
    (hgap : ∀ e ∈ ev, ¬ (a < e.1 ∧ e.1 < b)) : sumUpTo ev b = sumUpTo ev a + sumAt ev b := by
  induction ev with
  | nil => rfl
  | cons e ev ih =>
      have hg := hgap e (List.mem_cons_self ..)
      rw [sumUpTo_cons, sumUpTo_cons, sumAt_cons, ih (fun e' he' => hgap e' (List.mem_cons_of_mem _ he'))]
      omega

theorem sumUpTo_first (ev : List (Int × Int)) (a : Int) (hmin : ∀ e ∈ ev, a ≤ e.1) : sumUpTo ev a = sumAt ev a := by
  have : ev.filter (fun e => decide (e.1 ≤ a)) = ev.filter (fun e => decide (e.1 = a)) :=
    List.filter_congr fun e he => by have := hmin e he; simp only [decide_eq_decide]; omega
  rw [sumUpTo, sumAt, this]

theorem sumAt_unique (ev : List (Int × Int)) (hnd : (ev.map (·.1)).Nodup) (e : Int × Int) (he : e ∈ ev) :
    sumAt ev e.1 = e.2 := by
  have : ev.filter (fun x => decide (x.1 = e.1)) = [e] := by
    rw [List.filter_congr (q := fun x => decide (x = e)) fun x hx => by
        simp only [decide_eq_decide]
        exact ⟨fun h => List.inj_on_of_nodup_map hnd hx he h, fun h => h ▸ rfl⟩,
      List.filter_eq, List.count_eq_one_of_mem (List.Nodup.of_map _ hnd) he]
    rfl
  simp [sumAt, this]

/-- `T` are the change times, `L` the levels; a duplicate change time keeps the level, a new one adds everything that
    happens at that instant -/
theorem levels_closed_form (T : List Int) (L : Nat → Int) (ev : List (Int × Int))
    (hsorted : T.Pairwise (· ≤ ·)) (hcover : ∀ e ∈ ev, e.1 ∈ T)
    (hstep0 : 0 < T.length → L 1 = L 0 + sumAt ev (T.getD 0 0))
    (hstep : ∀ i, 0 < i → i < T.length →
      L (i + 1) = if T.getD i 0 = T.getD (i - 1) 0 then L i else L i + sumAt ev (T.getD i 0)) :
    ∀ i, i < T.length → L (i + 1) = L 0 + sumUpTo ev (T.getD i 0) := by
  have hle : ∀ i j, i ≤ j → j < T.length → T.getD i 0 ≤ T.getD j 0 := by
    intro i j hij hj
    rw [getD_of_lt T i (by omega), getD_of_lt T j hj]
    rcases Nat.lt_or_eq_of_le hij with h | rfl
    · exact List.pairwise_iff_getElem.1 hsorted i j _ hj h
    · exact le_refl _
  have hmem : ∀ e ∈ ev, ∃ k, k < T.length ∧ T.getD k 0 = e.1 := fun e he => by
    obtain ⟨k, hk, hk'⟩ := List.getElem_of_mem (hcover e he)
    exact ⟨k, hk, by rw [getD_of_lt T k hk, hk']⟩
  intro i
  induction i with
  | zero =>
      intro h0
      rw [hstep0 h0, sumUpTo_first]
      intro e he
      obtain ⟨k, hk, hk'⟩ := hmem e he
      exact hk' ▸ hle 0 k (Nat.zero_le _) hk
  | succ i ih =>
      intro hi
      rw [hstep (i + 1) (by omega) hi, Nat.add_sub_cancel, ih (by omega)]
      split
      · next heq => rw [heq]
      · next hne =>
        -- every access instant is some `T k`, at or before `T i` if `k ≤ i`, at or after `T (i + 1)` otherwise
        rw [sumUpTo_step ev _ _ (lt_of_le_of_ne (hle i (i + 1) (by omega) hi) (Ne.symm hne)), Int.add_assoc]
        intro e he ⟨h1, h2⟩
        obtain ⟨k, hk, hk'⟩ := hmem e he
        rw [← hk'] at h1 h2
        rcases Nat.lt_or_ge i k with hik | hki
        · exact absurd (hle (i + 1) k hik hk) (not_le.2 h2)
        · exact absurd (hle k i hki (by omega)) (not_le.2 h1)

/-- one compare-exchange chain carrying the running maximum -/
def bubbleInts (x : Int) : List Int → List Int
  | [] => [x]
  | y :: r => min x y :: bubbleInts (max x y) r

def passInts : List Int → List Int
  | [] => []
  | x :: r => bubbleInts x r

def passesInts : Nat → List Int → List Int
  | 0, l => l
  | k + 1, l => passesInts k (passInts l)

theorem bubbleInts_length (x : Int) (ys : List Int) : (bubbleInts x ys).length = ys.length + 1 := by
  induction ys generalizing x with
  | nil => rfl
  | cons y r ih => simp [bubbleInts, ih]

theorem passInts_length (l : List Int) : (passInts l).length = l.length := by
  cases l with
  | nil => rfl
  | cons x r => simp [passInts, bubbleInts_length]

theorem bubbleInts_spec (x : Int) (ys : List Int) :
    ∃ q m, bubbleInts x ys = q ++ [m] ∧ (q ++ [m]).Perm (x :: ys) ∧ (∀ a ∈ q, a ≤ m) ∧ x ≤ m := by
  induction ys generalizing x with
  | nil => exact ⟨[], x, rfl, by simp, by simp, le_refl _⟩
  | cons y r ih =>
      obtain ⟨q, m, he, hp, hq, hm⟩ := ih (max x y)
      refine ⟨min x y :: q, m, by simp [bubbleInts, he], ?_, ?_, le_trans (le_max_left x y) hm⟩
      · have h2 : (min x y :: max x y :: r).Perm (x :: y :: r) := by
          rcases le_total x y with hxy | hyx
          · rw [min_eq_left hxy, max_eq_right hxy]
          · rw [min_eq_right hyx, max_eq_left hyx]
            exact List.Perm.swap _ _ _
        exact (List.Perm.cons _ hp).trans h2
      · intro a ha
        rcases List.mem_cons.1 ha with rfl | ha
        · exact le_trans (min_le_left x y) (le_trans (le_max_left x y) hm)
        · exact hq a ha

theorem passInts_perm (l : List Int) : (passInts l).Perm l := by
  cases l with
  | nil => exact List.Perm.refl _
  | cons x r =>
      obtain ⟨q, m, hq, hp, _⟩ := bubbleInts_spec x r
      rw [passInts, hq]; exact hp

theorem bubbleInts_snoc (x : Int) (q : List Int) (m : Int) (hx : x ≤ m) (hq : ∀ a ∈ q, a ≤ m) :
    bubbleInts x (q ++ [m]) = bubbleInts x q ++ [m] := by
  induction q generalizing x with
  | nil => rw [List.nil_append, bubbleInts, bubbleInts, min_eq_left hx, max_eq_right hx]; rfl
  | cons y r ih =>
      rw [List.cons_append, bubbleInts, bubbleInts, List.cons_append,
        ih (max x y) (max_le hx (hq y (List.mem_cons_self ..))) (fun a ha => hq a (List.mem_cons_of_mem _ ha))]

theorem passesInts_snoc (k : Nat) (q : List Int) (m : Int) (hq : ∀ a ∈ q, a ≤ m) :
    passesInts k (q ++ [m]) = passesInts k q ++ [m] := by
  induction k generalizing q with
  | zero => rfl
  | succ k ih =>
      have hpass : passInts (q ++ [m]) = passInts q ++ [m] := by
        cases q with
        | nil => rfl
        | cons x r =>
            exact bubbleInts_snoc x r m (hq x (List.mem_cons_self ..)) (fun a ha => hq a (List.mem_cons_of_mem _ ha))
      rw [passesInts, hpass, ih _ fun a ha => hq a ((passInts_perm q).subset ha), passesInts]

theorem passes_sorted (l : List Int) : (passesInts l.length l).Pairwise (· ≤ ·) ∧ (passesInts l.length l).Perm l := by
  induction hn : l.length generalizing l with
  | zero => rw [List.eq_nil_of_length_eq_zero hn]; exact ⟨List.Pairwise.nil, List.Perm.refl _⟩
  | succ n ih =>
      match l, hn with
      | x :: r, hn =>
        -- the first pass puts a maximum `m` last; the other passes sort what stands before it
        obtain ⟨q, m, hq, hqp, hqm, _⟩ := bubbleInts_spec x r
        obtain ⟨h1, h2⟩ := ih q (by have := hqp.length_eq; simp at this hn; omega)
        rw [passesInts, passInts, hq, passesInts_snoc n q m hqm]
        exact ⟨List.pairwise_append.2 ⟨h1, List.pairwise_singleton _ _, fun a ha b hb =>
            List.mem_singleton.1 hb ▸ hqm a (h2.subset ha)⟩, (h2.append_right [m]).trans hqp⟩

theorem bubbleUpAux_sound (b : String) (ρ : Env) (ys : List Term) :
    ∀ (base : Nat) (x : Term), Sat ρ (bubbleUpAux b base x ys).2.1 →
      (bubbleUpAux b base x ys).1.map (fun t => t.eval ρ) = bubbleInts (x.eval ρ) (ys.map (fun t => t.eval ρ)) := by
  induction ys with
  | nil => intro base x _; rfl
  | cons y r ih =>
      intro base x h
      simp only [bubbleUpAux, sem] at h
      simp only [bubbleUpAux, List.map_cons, bubbleInts, ih _ _ h.2, Term.eval]
      by_cases hxy : x.eval ρ ≤ y.eval ρ
      · obtain ⟨h1, h2⟩ := h.1.1 hxy
        rw [h1, h2, min_eq_left hxy, max_eq_right hxy]
      · obtain ⟨h1, h2⟩ := h.1.2 hxy
        rw [h1, h2, min_eq_right (Int.le_of_not_le hxy), max_eq_left (Int.le_of_not_le hxy)]

theorem bubbleUp_sound (b : String) (ρ : Env) (base : Nat) (xs : List Term)
    (h : Sat ρ (bubbleUp b base xs).2.1) :
    (bubbleUp b base xs).1.map (fun t => t.eval ρ) = passInts (xs.map (fun t => t.eval ρ)) := by
  cases xs with
  | nil => rfl
  | cons x r => exact bubbleUpAux_sound b ρ r base x h

/-- the accumulating fold of `sortDup`, generalised over the accumulator -/
def sortDupFold (b : String) (l : List Nat) (acc : List Term × List Fml × Nat) : List Term × List Fml × Nat :=
  l.foldl (fun (acc : List Term × List Fml × Nat) _ =>
      let (arr, cs, k) := bubbleUp b acc.2.2 acc.1
      (arr, acc.2.1 ++ cs, k)) acc

theorem sortDupFold_sound (b : String) (ρ : Env) (l : List Nat) :
    ∀ acc, Sat ρ (sortDupFold b l acc).2.1 →
      Sat ρ acc.2.1 ∧
      (sortDupFold b l acc).1.map (fun t => t.eval ρ) = passesInts l.length (acc.1.map (fun t => t.eval ρ)) := by
  induction l with
  | nil => intro acc h; exact ⟨h, rfl⟩
  | cons _ r ih =>
      intro acc h
      obtain ⟨hacc, hres⟩ := ih _ h
      rw [Sat.append] at hacc
      exact ⟨hacc.1, by rw [sortDupFold, List.foldl_cons, ← sortDupFold, hres, List.length_cons, passesInts,
        bubbleUp_sound b ρ _ _ hacc.2]⟩

theorem sortDup_sound (b : String) (xs : List Term) (ρ : Env) (h : Sat ρ (sortDup b xs).2) :
    let S := (sortDup b xs).1.map (fun t => t.eval ρ)
    S.Pairwise (· ≤ ·) ∧ S.Perm (xs.map (fun t => t.eval ρ)) := by
  intro S
  have hS : S = _ := (sortDupFold_sound b ρ (List.range xs.length) (xs, [], 0) h).2
  rw [hS, List.length_range, ← List.length_map (f := fun t => t.eval ρ)]
  exact passes_sorted _

end PS
