/-
  PS.Proofs.Periodic — integer arithmetic behind the periodic resource constraints
  (ResourcePeriodicallyInterrupted): folding an instant into its period, the repetitions of a
  window that lie inside a busy interval, and the closed form of the "overlap" term the library
  builds from `div` / `mod`.
-/
import Mathlib.Tactic.Ring
namespace PS

/-- number of repetitions `k ∈ ℤ` of the window `(lo, hi)`, shifted to `(lo + off + p·k, hi + off + p·k)`,
    that lie inside `[s, e]`: the integers `k` with `⌈(s − lo − off)/p⌉ ≤ k ≤ ⌊(e − hi − off)/p⌋` -/
def repsInside (s e lo hi off p : Int) : Int := max 0 ((e - hi - off) / p + (lo + off - s) / p + 1)

theorem repsInside_spec (s e lo hi off p : Int) (hp : 0 < p) (k : Int) :
    (s ≤ lo + off + p * k ∧ hi + off + p * k ≤ e) ↔ (-((lo + off - s) / p) ≤ k ∧ k ≤ (e - hi - off) / p) := by
  rw [Int.neg_le_iff, Int.le_ediv_iff_mul_le hp, Int.le_ediv_iff_mul_le hp, Int.neg_mul, Int.mul_comm k p]
  omega

theorem ediv_eq_of_bounds (x p c : Int) (hp : 0 < p) (h1 : p * c ≤ x) (h2 : x < p * c + p) : x / p = c :=
  (Int.ediv_eq_iff_of_pos hp).2 (Int.mul_comm p c ▸ ⟨h1, h2⟩)

theorem folded_not_inside (x off p lo hi : Int) (hp : 0 < p) (hlo : 0 ≤ lo) (hhi : hi ≤ p)
    (h : (x - off) % p ≤ lo ∨ hi ≤ (x - off) % p) (k : Int) :
    x ≤ lo + off + p * k ∨ hi + off + p * k ≤ x := by
  -- otherwise `x − off − p·k` lies strictly between `lo` and `hi`, so it is the folded value
  by_contra hc
  have hm : (x - off - p * k) % p = x - off - p * k := Int.emod_eq_of_lt (by omega) (by omega)
  rw [Int.sub_mul_emod_self_left] at hm
  omega

/-- the converse for the repetition of the own period `k = (x − off) div p` -/
theorem folded_of_not_inside (x off p lo hi : Int)
    (h : x ≤ lo + off + p * ((x - off) / p) ∨ hi + off + p * ((x - off) / p) ≤ x) :
    (x - off) % p ≤ lo ∨ hi ≤ (x - off) % p := by
  have hS := Int.emod_add_mul_ediv (x - off) p
  omega

/-- the count in the coordinates of the encoding: quotient `(e − s) div p` of the duration, folded start
    `(s − off) mod p`, remainder `(e − s) mod p`; what is left are two floors of numbers between `−p` and `2p` -/
theorem repsInside_folded (s e lo hi off p : Int) (hp : 0 < p) :
    repsInside s e lo hi off p =
      max 0 ((e - s) / p + (((s - off) % p + (e - s) % p - hi) / p + (lo - (s - off) % p) / p + 1)) := by
  have hS := Int.emod_add_mul_ediv (s - off) p
  have hD := Int.emod_add_mul_ediv (e - s) p
  have hA : e - hi - off = ((s - off) % p + (e - s) % p - hi) + p * ((s - off) / p + (e - s) / p) := by
    rw [Int.mul_add]; omega
  have hB : lo + off - s = (lo - (s - off) % p) + p * (-((s - off) / p)) := by
    rw [Int.mul_neg]; omega
  rw [repsInside, hA, hB, Int.add_mul_ediv_left _ _ hp.ne', Int.add_mul_ediv_left _ _ hp.ne']
  congr 1; omega

theorem folded_end (s e off p : Int) : (e - off) % p = ((s - off) % p + (e - s) % p) % p := by
  rw [← Int.add_emod]; congr 1; omega

/-- in folded coordinates (start `fs`, end `fs + r`, neither strictly inside the window or its next repetition)
    the two small floors of `repsInside_folded` add up to the `crossing` test of the encoding: the window (`fs ≤ lo`),
    resp. its next repetition (`hi ≤ fs`), lies between `fs` and `fs + r` -/
theorem crossing_floors (p lo hi fs r : Int) (hp : 0 < p) (hlo : 0 ≤ lo) (hlt : lo < hi) (hhi : hi ≤ p)
    (hfs0 : 0 ≤ fs) (hfs1 : fs < p) (hr0 : 0 ≤ r) (hr1 : r < p) (hs : fs ≤ lo ∨ hi ≤ fs)
    (he0 : fs + r ≤ lo ∨ hi ≤ fs + r) (he1 : fs + r ≤ lo + p ∨ hi + p ≤ fs + r) :
    (fs + r - hi) / p + (lo - fs) / p + 1 =
      if ((fs ≤ lo ∧ fs + r ≤ lo) ↔ (hi ≤ fs ∧ fs + r ≤ lo + p)) then 1 else 0 := by
  rcases hs with hs | hs
  · rw [Int.ediv_eq_zero_of_lt (by omega) (by omega : lo - fs < p)]
    split
    · rw [ediv_eq_of_bounds _ p 0 hp (by omega) (by omega)]; rfl
    · rw [ediv_eq_of_bounds _ p (-1) hp (by omega) (by omega)]; rfl
  · rw [ediv_eq_of_bounds (lo - fs) p (-1) hp (by omega) (by omega)]
    split
    · rw [ediv_eq_of_bounds _ p 1 hp (by omega) (by omega)]; rfl
    · rw [ediv_eq_of_bounds _ p 0 hp (by omega) (by omega)]; rfl

/-- The overlap term of ResourcePeriodicallyInterrupted,
    `if crossing ∨ e − s > lo + p − hi then (hi − lo)·((e − s) div p + [crossing]) else 0`, is `(hi − lo)` times the
    number of repetitions of the window inside the busy interval `[s, e]`, when the folded end points of the interval
    do not lie strictly inside the window. -/
theorem periodic_overlap_closed_form (s e lo hi off p : Int) (hp : 0 < p)
    (hlo : 0 ≤ lo) (hlt : lo < hi) (hhi : hi ≤ p) (hse : s ≤ e)
    (hs : (s - off) % p ≤ lo ∨ hi ≤ (s - off) % p)
    (he : (e - off) % p ≤ lo ∨ hi ≤ (e - off) % p)
    (crossing : Prop) [Decidable crossing]
    (hcr : crossing ↔ (((s - off) % p ≤ lo ∧ (s - off) % p + (e - s) % p ≤ lo) ↔
                       (hi ≤ (s - off) % p ∧ (s - off) % p + (e - s) % p ≤ lo + p))) :
    (if crossing ∨ lo + p - hi < e - s then (hi - lo) * (if crossing then (e - s) / p + 1 else (e - s) / p) else 0)
      = (hi - lo) * repsInside s e lo hi off p := by
  have hr0 := Int.emod_nonneg (e - s) hp.ne'
  have hr1 := Int.emod_lt_of_pos (e - s) hp
  rw [folded_end s e off p, ← Int.sub_zero (_ + _)] at he
  have he0 := folded_not_inside _ 0 p lo hi hp hlo hhi he 0
  have he1 := folded_not_inside _ 0 p lo hi hp hlo hhi he 1
  -- the count is `(e − s) div p + [crossing]`
  rw [repsInside_folded s e lo hi off p hp,
    crossing_floors p lo hi _ _ hp hlo hlt hhi (Int.emod_nonneg _ hp.ne') (Int.emod_lt_of_pos _ hp) hr0 hr1 hs
      (by omega) (by omega)]
  simp only [← hcr]
  have hD := Int.emod_add_mul_ediv (e - s) p
  have hq0 : 0 ≤ (e - s) / p := Int.ediv_nonneg (by omega) hp.le
  generalize (e - s) / p = q at *
  by_cases hc : crossing
  · simp only [hc, true_or, if_true]; rw [max_eq_right (by omega)]
  · simp only [hc, false_or, if_false, Int.add_zero]
    rw [max_eq_right hq0]
    split
    · rfl
    · -- a duration of at most `lo + p − hi < p` has quotient 0
      have : q = 0 := by
        by_contra hq
        have : p * 1 ≤ p * q := Int.mul_le_mul_of_nonneg_left (by omega) hp.le
        omega
      rw [this, Int.mul_zero]

end PS
